/-
AES-256 block cipher (FIPS-197) and CBC mode over whole blocks (SP 800-38A).

Executable reference implementation.  Everything is total and defined by plain
structural recursion / `List` combinators; no `partial`, `unsafe`,
`implemented_by`, `sorry` or `native_decide`.

State layout: a block / state is a `List UInt8` of length 16 in the FIPS-197
input order, i.e. column-major: byte `r + 4*c` is row `r`, column `c`.
Inputs of the wrong length never crash; keys and blocks are zero-padded /
truncated to 32 / 16 bytes.
-/

namespace Cinco.Aes

/-! ## Tables -/

/-- FIPS-197 Figure 7. -/
def sbox : Array UInt8 := #[
    0x63, 0x7c, 0x77, 0x7b, 0xf2, 0x6b, 0x6f, 0xc5, 0x30, 0x01, 0x67, 0x2b, 0xfe, 0xd7, 0xab, 0x76,
    0xca, 0x82, 0xc9, 0x7d, 0xfa, 0x59, 0x47, 0xf0, 0xad, 0xd4, 0xa2, 0xaf, 0x9c, 0xa4, 0x72, 0xc0,
    0xb7, 0xfd, 0x93, 0x26, 0x36, 0x3f, 0xf7, 0xcc, 0x34, 0xa5, 0xe5, 0xf1, 0x71, 0xd8, 0x31, 0x15,
    0x04, 0xc7, 0x23, 0xc3, 0x18, 0x96, 0x05, 0x9a, 0x07, 0x12, 0x80, 0xe2, 0xeb, 0x27, 0xb2, 0x75,
    0x09, 0x83, 0x2c, 0x1a, 0x1b, 0x6e, 0x5a, 0xa0, 0x52, 0x3b, 0xd6, 0xb3, 0x29, 0xe3, 0x2f, 0x84,
    0x53, 0xd1, 0x00, 0xed, 0x20, 0xfc, 0xb1, 0x5b, 0x6a, 0xcb, 0xbe, 0x39, 0x4a, 0x4c, 0x58, 0xcf,
    0xd0, 0xef, 0xaa, 0xfb, 0x43, 0x4d, 0x33, 0x85, 0x45, 0xf9, 0x02, 0x7f, 0x50, 0x3c, 0x9f, 0xa8,
    0x51, 0xa3, 0x40, 0x8f, 0x92, 0x9d, 0x38, 0xf5, 0xbc, 0xb6, 0xda, 0x21, 0x10, 0xff, 0xf3, 0xd2,
    0xcd, 0x0c, 0x13, 0xec, 0x5f, 0x97, 0x44, 0x17, 0xc4, 0xa7, 0x7e, 0x3d, 0x64, 0x5d, 0x19, 0x73,
    0x60, 0x81, 0x4f, 0xdc, 0x22, 0x2a, 0x90, 0x88, 0x46, 0xee, 0xb8, 0x14, 0xde, 0x5e, 0x0b, 0xdb,
    0xe0, 0x32, 0x3a, 0x0a, 0x49, 0x06, 0x24, 0x5c, 0xc2, 0xd3, 0xac, 0x62, 0x91, 0x95, 0xe4, 0x79,
    0xe7, 0xc8, 0x37, 0x6d, 0x8d, 0xd5, 0x4e, 0xa9, 0x6c, 0x56, 0xf4, 0xea, 0x65, 0x7a, 0xae, 0x08,
    0xba, 0x78, 0x25, 0x2e, 0x1c, 0xa6, 0xb4, 0xc6, 0xe8, 0xdd, 0x74, 0x1f, 0x4b, 0xbd, 0x8b, 0x8a,
    0x70, 0x3e, 0xb5, 0x66, 0x48, 0x03, 0xf6, 0x0e, 0x61, 0x35, 0x57, 0xb9, 0x86, 0xc1, 0x1d, 0x9e,
    0xe1, 0xf8, 0x98, 0x11, 0x69, 0xd9, 0x8e, 0x94, 0x9b, 0x1e, 0x87, 0xe9, 0xce, 0x55, 0x28, 0xdf,
    0x8c, 0xa1, 0x89, 0x0d, 0xbf, 0xe6, 0x42, 0x68, 0x41, 0x99, 0x2d, 0x0f, 0xb0, 0x54, 0xbb, 0x16
  ]

/-- FIPS-197 Figure 14. -/
def invSbox : Array UInt8 := #[
    0x52, 0x09, 0x6a, 0xd5, 0x30, 0x36, 0xa5, 0x38, 0xbf, 0x40, 0xa3, 0x9e, 0x81, 0xf3, 0xd7, 0xfb,
    0x7c, 0xe3, 0x39, 0x82, 0x9b, 0x2f, 0xff, 0x87, 0x34, 0x8e, 0x43, 0x44, 0xc4, 0xde, 0xe9, 0xcb,
    0x54, 0x7b, 0x94, 0x32, 0xa6, 0xc2, 0x23, 0x3d, 0xee, 0x4c, 0x95, 0x0b, 0x42, 0xfa, 0xc3, 0x4e,
    0x08, 0x2e, 0xa1, 0x66, 0x28, 0xd9, 0x24, 0xb2, 0x76, 0x5b, 0xa2, 0x49, 0x6d, 0x8b, 0xd1, 0x25,
    0x72, 0xf8, 0xf6, 0x64, 0x86, 0x68, 0x98, 0x16, 0xd4, 0xa4, 0x5c, 0xcc, 0x5d, 0x65, 0xb6, 0x92,
    0x6c, 0x70, 0x48, 0x50, 0xfd, 0xed, 0xb9, 0xda, 0x5e, 0x15, 0x46, 0x57, 0xa7, 0x8d, 0x9d, 0x84,
    0x90, 0xd8, 0xab, 0x00, 0x8c, 0xbc, 0xd3, 0x0a, 0xf7, 0xe4, 0x58, 0x05, 0xb8, 0xb3, 0x45, 0x06,
    0xd0, 0x2c, 0x1e, 0x8f, 0xca, 0x3f, 0x0f, 0x02, 0xc1, 0xaf, 0xbd, 0x03, 0x01, 0x13, 0x8a, 0x6b,
    0x3a, 0x91, 0x11, 0x41, 0x4f, 0x67, 0xdc, 0xea, 0x97, 0xf2, 0xcf, 0xce, 0xf0, 0xb4, 0xe6, 0x73,
    0x96, 0xac, 0x74, 0x22, 0xe7, 0xad, 0x35, 0x85, 0xe2, 0xf9, 0x37, 0xe8, 0x1c, 0x75, 0xdf, 0x6e,
    0x47, 0xf1, 0x1a, 0x71, 0x1d, 0x29, 0xc5, 0x89, 0x6f, 0xb7, 0x62, 0x0e, 0xaa, 0x18, 0xbe, 0x1b,
    0xfc, 0x56, 0x3e, 0x4b, 0xc6, 0xd2, 0x79, 0x20, 0x9a, 0xdb, 0xc0, 0xfe, 0x78, 0xcd, 0x5a, 0xf4,
    0x1f, 0xdd, 0xa8, 0x33, 0x88, 0x07, 0xc7, 0x31, 0xb1, 0x12, 0x10, 0x59, 0x27, 0x80, 0xec, 0x5f,
    0x60, 0x51, 0x7f, 0xa9, 0x19, 0xb5, 0x4a, 0x0d, 0x2d, 0xe5, 0x7a, 0x9f, 0x93, 0xc9, 0x9c, 0xef,
    0xa0, 0xe0, 0x3b, 0x4d, 0xae, 0x2a, 0xf5, 0xb0, 0xc8, 0xeb, 0xbb, 0x3c, 0x83, 0x53, 0x99, 0x61,
    0x17, 0x2b, 0x04, 0x7e, 0xba, 0x77, 0xd6, 0x26, 0xe1, 0x69, 0x14, 0x63, 0x55, 0x21, 0x0c, 0x7d
  ]

@[inline] def subByte (b : UInt8) : UInt8 := sbox[b.toNat]!
@[inline] def invSubByte (b : UInt8) : UInt8 := invSbox[b.toNat]!

/-! ## GF(2^8) arithmetic -/

/-- Multiplication by `x` (i.e. `{02}`) modulo `x^8 + x^4 + x^3 + x + 1`. -/
@[inline] def xtime (b : UInt8) : UInt8 :=
  (b <<< 1) ^^^ (if b &&& 0x80 = 0 then 0x00 else 0x1b)

@[inline] def mul2 (b : UInt8) : UInt8 := xtime b
@[inline] def mul3 (b : UInt8) : UInt8 := xtime b ^^^ b
@[inline] def mul9 (b : UInt8) : UInt8 := xtime (xtime (xtime b)) ^^^ b
@[inline] def mul11 (b : UInt8) : UInt8 := xtime (xtime (xtime b)) ^^^ xtime b ^^^ b
@[inline] def mul13 (b : UInt8) : UInt8 := xtime (xtime (xtime b)) ^^^ xtime (xtime b) ^^^ b
@[inline] def mul14 (b : UInt8) : UInt8 := xtime (xtime (xtime b)) ^^^ xtime (xtime b) ^^^ xtime b

/-! ## Helpers -/

/-- Truncate or zero-pad to exactly `n` bytes. -/
def padTo (n : Nat) (l : List UInt8) : List UInt8 :=
  (l ++ List.replicate (n - l.length) 0).take n

def xorBytes (a b : List UInt8) : List UInt8 := List.zipWith (· ^^^ ·) a b

/-! ## Round transformations -/

def addRoundKey (s rk : List UInt8) : List UInt8 := xorBytes s rk

def subBytes (s : List UInt8) : List UInt8 := s.map subByte
def invSubBytes (s : List UInt8) : List UInt8 := s.map invSubByte

def shiftRows : List UInt8 → List UInt8
  | [s0, s1, s2, s3, s4, s5, s6, s7, s8, s9, s10, s11, s12, s13, s14, s15] =>
    [s0, s5, s10, s15,  s4, s9, s14, s3,  s8, s13, s2, s7,  s12, s1, s6, s11]
  | s => s

def invShiftRows : List UInt8 → List UInt8
  | [s0, s1, s2, s3, s4, s5, s6, s7, s8, s9, s10, s11, s12, s13, s14, s15] =>
    [s0, s13, s10, s7,  s4, s1, s14, s11,  s8, s5, s2, s15,  s12, s9, s6, s3]
  | s => s

def mixColumns : List UInt8 → List UInt8
  | a :: b :: c :: d :: rest =>
    (mul2 a ^^^ mul3 b ^^^ c ^^^ d) ::
    (a ^^^ mul2 b ^^^ mul3 c ^^^ d) ::
    (a ^^^ b ^^^ mul2 c ^^^ mul3 d) ::
    (mul3 a ^^^ b ^^^ c ^^^ mul2 d) :: mixColumns rest
  | _ => []

def invMixColumns : List UInt8 → List UInt8
  | a :: b :: c :: d :: rest =>
    (mul14 a ^^^ mul11 b ^^^ mul13 c ^^^ mul9 d) ::
    (mul9 a ^^^ mul14 b ^^^ mul11 c ^^^ mul13 d) ::
    (mul13 a ^^^ mul9 b ^^^ mul14 c ^^^ mul11 d) ::
    (mul11 a ^^^ mul13 b ^^^ mul9 c ^^^ mul14 d) :: invMixColumns rest
  | _ => []

/-! ## Key expansion (Nk = 8, Nr = 14) -/

/-- One step of the AES-256 key schedule: from eight consecutive words
`w[8k] .. w[8k+7]` (32 bytes) compute the next eight words, using round
constant `rcon = x^k`. -/
def nextKeyChunk (rcon : UInt8) : List UInt8 → List UInt8
  | [a0, a1, a2, a3, b0, b1, b2, b3, c0, c1, c2, c3, d0, d1, d2, d3,
     e0, e1, e2, e3, f0, f1, f2, f3, g0, g1, g2, g3, h0, h1, h2, h3] =>
    -- w[i] = w[i-8] ^ SubWord(RotWord(w[i-1])) ^ Rcon
    let a0' := a0 ^^^ subByte h1 ^^^ rcon
    let a1' := a1 ^^^ subByte h2
    let a2' := a2 ^^^ subByte h3
    let a3' := a3 ^^^ subByte h0
    let b0' := b0 ^^^ a0'; let b1' := b1 ^^^ a1'; let b2' := b2 ^^^ a2'; let b3' := b3 ^^^ a3'
    let c0' := c0 ^^^ b0'; let c1' := c1 ^^^ b1'; let c2' := c2 ^^^ b2'; let c3' := c3 ^^^ b3'
    let d0' := d0 ^^^ c0'; let d1' := d1 ^^^ c1'; let d2' := d2 ^^^ c2'; let d3' := d3 ^^^ c3'
    -- i % 8 = 4: w[i] = w[i-8] ^ SubWord(w[i-1])
    let e0' := e0 ^^^ subByte d0'
    let e1' := e1 ^^^ subByte d1'
    let e2' := e2 ^^^ subByte d2'
    let e3' := e3 ^^^ subByte d3'
    let f0' := f0 ^^^ e0'; let f1' := f1 ^^^ e1'; let f2' := f2 ^^^ e2'; let f3' := f3 ^^^ e3'
    let g0' := g0 ^^^ f0'; let g1' := g1 ^^^ f1'; let g2' := g2 ^^^ f2'; let g3' := g3 ^^^ f3'
    let h0' := h0 ^^^ g0'; let h1' := h1 ^^^ g1'; let h2' := h2 ^^^ g2'; let h3' := h3 ^^^ g3'
    [a0', a1', a2', a3', b0', b1', b2', b3', c0', c1', c2', c3', d0', d1', d2', d3',
     e0', e1', e2', e3', f0', f1', f2', f3', g0', g1', g2', g3', h0', h1', h2', h3']
  | k => k

/-- `expandChunks n rcon k` is `k` followed by `n` further 32-byte chunks of the
key schedule, split into 16-byte round keys. -/
def expandChunks : Nat → UInt8 → List UInt8 → List (List UInt8)
  | 0, _, k => [k.take 16, k.drop 16]
  | n + 1, rcon, k => k.take 16 :: k.drop 16 :: expandChunks n (xtime rcon) (nextKeyChunk rcon k)

/-- The 15 round keys (16 bytes each) of AES-256 for a 32-byte key. -/
def keyExpansion (key : List UInt8) : List (List UInt8) :=
  (expandChunks 7 0x01 (padTo 32 key)).take 15

/-! ## Cipher and inverse cipher -/

/-- Rounds 1..Nr given the remaining round keys (the last one is used without
`MixColumns`). -/
def encRounds : List (List UInt8) → List UInt8 → List UInt8
  | [], s => s
  | [rk], s => addRoundKey (shiftRows (subBytes s)) rk
  | rk :: rks, s => encRounds rks (addRoundKey (mixColumns (shiftRows (subBytes s))) rk)

/-- FIPS-197 `Cipher` with an already expanded key. -/
def encryptBlockWith (rks : List (List UInt8)) (block : List UInt8) : List UInt8 :=
  match rks with
  | [] => padTo 16 block
  | rk0 :: rest => encRounds rest (addRoundKey (padTo 16 block) rk0)

/-- Inverse rounds; takes the round keys in *reverse* order without the
outermost one (`rk[Nr-1], ..., rk[0]`). -/
def decRounds : List (List UInt8) → List UInt8 → List UInt8
  | [], s => s
  | [rk], s => addRoundKey (invSubBytes (invShiftRows s)) rk
  | rk :: rks, s => decRounds rks (invMixColumns (addRoundKey (invSubBytes (invShiftRows s)) rk))

/-- FIPS-197 `InvCipher` with an already expanded key (`rks` in forward order). -/
def decryptBlockWith (rks : List (List UInt8)) (block : List UInt8) : List UInt8 :=
  match rks.reverse with
  | [] => padTo 16 block
  | rkN :: rest => decRounds rest (addRoundKey (padTo 16 block) rkN)

/-- AES-256 encryption of one 16-byte block under a 32-byte key. -/
def encryptBlock (key : List UInt8) (block : List UInt8) : List UInt8 :=
  encryptBlockWith (keyExpansion key) block

/-- AES-256 decryption of one 16-byte block under a 32-byte key. -/
def decryptBlock (key : List UInt8) (block : List UInt8) : List UInt8 :=
  decryptBlockWith (keyExpansion key) block

/-! ## CBC mode (whole blocks only, no padding, IV not prepended) -/

/-- Encrypt `n` blocks of `data`, chaining from `prev`. -/
def cbcEncryptBlocks (rks : List (List UInt8)) : Nat → List UInt8 → List UInt8 → List UInt8
  | 0, _, _ => []
  | n + 1, prev, data =>
    let c := encryptBlockWith rks (xorBytes (padTo 16 (data.take 16)) prev)
    c ++ cbcEncryptBlocks rks n c (data.drop 16)

/-- Decrypt `n` blocks of `data`, chaining from `prev`. -/
def cbcDecryptBlocks (rks : List (List UInt8)) : Nat → List UInt8 → List UInt8 → List UInt8
  | 0, _, _ => []
  | n + 1, prev, data =>
    let c := padTo 16 (data.take 16)
    xorBytes (decryptBlockWith rks c) prev ++ cbcDecryptBlocks rks n c (data.drop 16)

/-- AES-256-CBC encryption.  `plaintextPadded.length` should be a multiple of 16
(a trailing partial block is zero-padded). -/
def cbcEncrypt (key iv plaintextPadded : List UInt8) : List UInt8 :=
  cbcEncryptBlocks (keyExpansion key) ((plaintextPadded.length + 15) / 16) (padTo 16 iv)
    plaintextPadded

/-- AES-256-CBC decryption.  `ciphertext.length` should be a multiple of 16
(a trailing partial block is zero-padded). -/
def cbcDecrypt (key iv ciphertext : List UInt8) : List UInt8 :=
  cbcDecryptBlocks (keyExpansion key) ((ciphertext.length + 15) / 16) (padTo 16 iv) ciphertext

/-! ## Build-time validation -/

section Tests

private def hexVal (c : Char) : UInt8 :=
  if '0' ≤ c ∧ c ≤ '9' then (c.toNat - '0'.toNat).toUInt8
  else if 'a' ≤ c ∧ c ≤ 'f' then (c.toNat - 'a'.toNat + 10).toUInt8
  else if 'A' ≤ c ∧ c ≤ 'F' then (c.toNat - 'A'.toNat + 10).toUInt8
  else 0

private def hexList : List Char → List UInt8
  | a :: b :: rest => (hexVal a <<< 4 ||| hexVal b) :: hexList rest
  | _ => []

/-- Hex string to bytes (test helper). -/
private def hex (s : String) : List UInt8 := hexList s.toList

#guard sbox.size = 256
#guard invSbox.size = 256
#guard (List.range 256).all fun i => invSbox[(sbox[i]!).toNat]! = i.toUInt8
#guard (List.range 256).all fun i => sbox[(invSbox[i]!).toNat]! = i.toUInt8
#guard subByte 0x53 = 0xed
#guard xtime 0x57 = 0xae ∧ xtime 0xae = 0x47 ∧ xtime 0x47 = 0x8e ∧ xtime 0x8e = 0x07

-- FIPS-197 Appendix A.3 (key expansion, 256-bit key): w[8..11] and w[56..59].
#guard (keyExpansion (hex "603deb1015ca71be2b73aef0857d77811f352c073b6108d72d9810a30914dff4")).length = 15
#guard (keyExpansion (hex "603deb1015ca71be2b73aef0857d77811f352c073b6108d72d9810a30914dff4")).all (·.length = 16)
#guard (keyExpansion (hex "603deb1015ca71be2b73aef0857d77811f352c073b6108d72d9810a30914dff4"))[2]! =
  hex "9ba354118e6925afa51a8b5f2067fcde"
#guard (keyExpansion (hex "603deb1015ca71be2b73aef0857d77811f352c073b6108d72d9810a30914dff4"))[14]! =
  hex "fe4890d1e6188d0b046df344706c631e"

-- FIPS-197 Appendix C.3.
#guard encryptBlock (hex "000102030405060708090a0b0c0d0e0f101112131415161718191a1b1c1d1e1f")
  (hex "00112233445566778899aabbccddeeff") = hex "8ea2b7ca516745bfeafc49904b496089"
#guard decryptBlock (hex "000102030405060708090a0b0c0d0e0f101112131415161718191a1b1c1d1e1f")
  (hex "8ea2b7ca516745bfeafc49904b496089") = hex "00112233445566778899aabbccddeeff"

-- NIST SP 800-38A F.2.5 / F.2.6 (CBC-AES256); expected value computed with Python `cryptography`.
private def nistKey := hex "603deb1015ca71be2b73aef0857d77811f352c073b6108d72d9810a30914dff4"
private def nistIv := hex "000102030405060708090a0b0c0d0e0f"
private def nistPt := hex <|
  "6bc1bee22e409f96e93d7e117393172a" ++ "ae2d8a571e03ac9c9eb76fac45af8e51" ++
  "30c81c46a35ce411e5fbc1191a0a52ef" ++ "f69f2445df4f9b17ad2b417be66c3710"
private def nistCt := hex <|
  "f58c4c04d6e5f1ba779eabfb5f7bfbd6" ++ "9cfc4e967edb808d679f777bc6702c7d" ++
  "39f23369a9d9bacfa530e26304231461" ++ "b2eb05e2c39be9fcda6c19078c6a9d1b"
#guard cbcEncrypt nistKey nistIv nistPt = nistCt
#guard cbcDecrypt nistKey nistIv nistCt = nistPt

-- Random vectors (Python `random.seed(20260926)`), expected values from Python `cryptography`.
private def randomVectors : List (String × String × String) := [
  ("251708755e123abefd7e7341d11a9e66e653623fa5b0807aac06d8b7800c2d5b",
   "c0f759d3364ccc4f50596129bb141fec", "d48177e04c135e01972a2d1950208bef"),
  ("768a99db133741b3343c1e716fe9ca264710b44cdbf9d2eec0829f10d99c5640",
   "cb06041a997cfb575e7df60b2dedad86", "8bf88bb48cbc98798e958e0ba53d8479"),
  ("9bfe5cc60f9f0934fd915cab0b7f0ab419f91dd7bcb2b8a386c6ba08e09fe53d",
   "d604eeed244de2d0cc00401a62492b24", "011c62d473e636e59160eadc94d63c1e"),
  ("83c08791a849d75a1964ee38002201bdcf053bc81619c8da52370bfa0d84be58",
   "2c0ded015f08a00e7b976431d2a54ad4", "2b8c481522abe5f51193ddb76d09bcf3")]
#guard randomVectors.all fun (k, p, c) => encryptBlock (hex k) (hex p) = hex c
#guard randomVectors.all fun (k, p, c) => decryptBlock (hex k) (hex c) = hex p

private def rcbcKey := hex "1bdf986c3a6e58b50a162cfccdf5308ed8374f200fe8ed1fb5c8c6065ef0df9c"
private def rcbcIv := hex "ebac672f876d91f0684b8090b7220068"
private def rcbcPt := hex <|
  "2217e83777639e183767141af8e34577" ++ "776738cd0ac7d54c69d0e0308fe7aa69" ++
  "8d3ae84dab4cc79ac6abd0c7ca80b845"
private def rcbcCt := hex <|
  "372f0aadd2c696a253549afc1e5cc8d4" ++ "e18846afd28e275dffba5f4853b31ac0" ++
  "89f05c07edd0ce5867105953697f3d3c"
#guard cbcEncrypt rcbcKey rcbcIv rcbcPt = rcbcCt
#guard cbcDecrypt rcbcKey rcbcIv rcbcCt = rcbcPt

-- Wrong-length inputs do not crash and still yield whole blocks.
#guard (encryptBlock [] []).length = 16
#guard (decryptBlock [1, 2, 3] [4]).length = 16
#guard cbcEncrypt [] [] [] = []
#guard (cbcEncrypt [] [] [1]).length = 16
#guard (cbcDecrypt [] [] (List.replicate 17 0)).length = 32

end Tests

/-! ## S-box inversion

Checked by the kernel by exhaustive evaluation (`decide +kernel`; no `native_decide`).
One linear pass over `sbox` with 256 list lookups into `invSbox` (a few seconds). -/

private theorem sbox_inv_list :
    sbox.toList.map (fun v => invSbox.toList.getD v.toNat 0)
      = (List.range 256).map UInt8.ofNat := by
  decide +kernel

private theorem getElem!_eq_toList_getD (a : Array UInt8) (i : Nat) :
    a[i]! = a.toList.getD i 0 := by
  simp [List.getD, getElem!_def]
  rfl

theorem sbox_inv : ∀ b : UInt8, invSbox[(sbox[b.toNat]!).toNat]! = b := by
  intro b
  have hb : b.toNat < 256 := UInt8.toNat_lt b
  have h := congrArg (fun l => l[b.toNat]?) sbox_inv_list
  simp only [List.getElem?_map, List.getElem?_range hb, Option.map_some] at h
  rw [getElem!_eq_toList_getD, getElem!_eq_toList_getD]
  cases hs : sbox.toList[b.toNat]? with
  | none => simp [hs] at h
  | some v =>
    simp only [hs, Option.map_some, Option.some.injEq] at h
    simp only [List.getD, hs, Option.getD_some]
    simpa [List.getD] using h

end Cinco.Aes
