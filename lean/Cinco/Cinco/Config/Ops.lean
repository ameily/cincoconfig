import Cinco.Config.Schema
/-
  The mutating entry points of `Config` in code order (cincoconfig/core.py): `__init__`, `_set_value`,
  `__setitem__`, `load_tree`, `validate`, `reset_value`, plus `to_tree`.  Every operation returns the state
  *at the moment it returned or raised*, so "a rejected operation leaves the configuration unchanged" is a
  theorem about write ordering, not a definition.
-/
namespace Cinco.Config
open Cinco Cinco.Field

inductive CErr where
  | validation (path : String)      -- the library's ValidationError with its reference path
  | attribute                       -- AttributeError: unknown key on a non-dynamic configuration
  | raw (kind : String)             -- any other exception class escaping
  deriving DecidableEq, Repr

structure World where
  environ : String → Option String        -- os.environ
  fe : CodecEnv                           -- what field validators can observe

/-- state at return / raise, the error if it raised, and the next free object identity -/
structure Out where
  cfg : Cfg
  err : Option CErr := none
  next : Nat

def joinPath (root key : String) : String := if root.isEmpty then key else root ++ "." ++ key

def fieldErr (path key : String) : Field.Err → CErr
  | .entry k => .validation (joinPath path key ++ "[" ++ (match k with | .str s => String.ofList s | .int i => toString i | .bool b => (if b then "True" else "False") | _ => "?") ++ "]")
  | _ => .validation (joinPath path key)

/-- a value handed to an assignment: a plain Python value, or a configuration object -/
inductive Arg where
  | val (v : Val)
  | cfg (c : Cfg) (sameSchema : Bool)       -- `sameSchema`: built from the schema the target field holds

def envValue (W : World) (m : LeafMeta) : Option Str :=
  match m.env with
  | some n => if n.isEmpty then none else
      match W.environ n with
      | some s => if s.isEmpty then none else some s.toList
      | none => none
  | none => none

/-- does the kind take its default through `Field.__setdefault__` (which consults the environment)? -/
def usesBaseSetdefault : Kind → Bool
  | .list _ => false
  | .dict _ _ => false
  | _ => true

mutual
  /-- `Config(schema, parent)` with no keyword data: every field's `__setdefault__` in schema order -/
  def build (W : World) (path : String) (linked : Bool) (keyfile : Option String) : Schema → Nat → Except CErr (Cfg × Nat)
    | .mk fields dyn vs, n => buildFields W path fields (Cfg.mk n [] [] [] keyfile linked) (n + 1)
  def buildFields (W : World) (path : String) : List (String × SField) → Cfg → Nat → Except CErr (Cfg × Nat)
    | [], c, n => .ok (c, n)
    | (k, f) :: rest, c, n =>
      match setDefault W path k f c n with
      | .error e => .error e
      | .ok (c', n') => buildFields W path rest c' n'
  /-- `field.__setdefault__(cfg)` -/
  def setDefault (W : World) (path : String) (k : String) : SField → Cfg → Nat → Except CErr (Cfg × Nat)
    | .leaf f m, c, n =>
      match f.kind with
      | .list item =>
          -- ListField.__setdefault__: a list default is wrapped in a validating proxy (typed) or copied; the environment is not consulted
          match m.default.value with
          | .list xs =>
            (match validateItems W.fe.toEnv item xs with
             | none => .ok (c.setDefault k (.val (.list xs)), n)
             | some (.ok ys) => .ok (c.setDefault k (.val (.list ys)), n)
             | some (.error e) => .error (.raw (match e with | .value => "ValueError" | .type => "TypeError" | .overflow => "OverflowError" | .entry _ => "ValidationError")))
          | d => .ok (c.setDefault k (.val d), n)
      | .dict kf vf =>
          match m.default.value with
          | .dict kvs =>
            if kf.isNone && vf.isNone then .ok (c.setDefault k (.val (.dict kvs)), n) else
            (match mapEntries (fun x => validateOpt W.fe.toEnv kf x) (fun x => validateOpt W.fe.toEnv vf x) kvs with
             | .ok es => .ok (c.setDefault k (.val (.dict (buildDict es))), n)
             | .error e => .error (fieldErr path k e))
          | d => .ok (c.setDefault k (.val d), n)
      | .challenge alg =>
          -- ChallengeField.__setdefault__: a set environment variable (or no default) goes through the base class;
          -- otherwise a plaintext default is hashed and a digest is kept
          match envValue W m, m.default.value with
          | some s, _ => (match validate W.fe.toEnv f (.str s) with
               | .ok v => .ok (c.setDefault k (.val v), n)
               | .error e => .error (fieldErr path k e))
          | none, .none => .ok (c.setDefault k (.val .none), n)
          | none, .str p => let salt := W.fe.salt alg; .ok (c.setDefault k (.val (.digest salt (W.fe.hash alg (salt ++ W.fe.utf8 p)) alg)), n)
          | none, .digest s d a => .ok (c.setDefault k (.val (.digest s d a)), n)
          | none, _ => .error (.raw "TypeError")
      | _ =>
          -- Field.__setdefault__: a non-empty environment variable is validated and wins over the default
          match envValue W m with
          | some s => (match validate W.fe.toEnv f (.str s) with
              | .ok v => (match v with
                  | .none => .ok (c.setDefault k (.val m.default.value), n)
                  | v => .ok (c.setDefault k (.val v), n))
              | .error e => .error (fieldErr path k e))
          | none => .ok (c.setDefault k (.val m.default.value), n)
    | .sub s, c, n =>
      match build W (joinPath path k) true none s n with
      | .ok (sub, n') => .ok (c.setDefault k (.node sub), n')
      | .error e => .error e
    | .ctype s kf, c, n =>
      match build W (joinPath path k) true kf s n with
      | .ok (sub, n') => .ok (c.setDefault k (.node sub), n')
      | .error e => .error e
    | .cfgList _ _ _ m, c, n =>
      match m.default.value with
      | .list [] => .ok (c.setDefault k (.nodes []), n)
      | .none => .ok (c.setDefault k (.val .none), n)
      | _ => .error (.raw "unmodelled-default")
    | .virtual _ _, c, n => .ok (c, n)
    | .method, c, n => .ok (c, n)
end

/-- `Config._get_field` -/
inductive FieldRef where
  | declared (f : SField)
  | dynamic                       -- an `AnyField()` added to this configuration
  | missing

def getField (s : Schema) (c : Cfg) (k : String) : FieldRef :=
  match s.get k with
  | some f => .declared f
  | none => if c.dyn.contains k then .dynamic else .missing

end Cinco.Config

namespace Cinco.Config
open Cinco Cinco.Field

def errKindName : Field.Err → String
  | .value => "ValueError" | .type => "TypeError" | .overflow => "OverflowError" | .entry _ => "ValidationError"

/-- schema-level validator catalogue (the harness registers the same functions): `none` = passes -/
def schemaValidator (name : String) (c : Cfg) : Bool :=
  match name with
  | "never" => false
  | "x_lt_y" =>
    (match c.get "x", c.get "y" with
     | some (.val (.int x)), some (.val (.int y)) => decide (x < y)
     | _, _ => true)
  | _ => true

/-- `FeatureFlagField.is_feature_enabled`: truthiness of the stored flag, for every flag field of the schema -/
def featureEnabled (s : Schema) (c : Cfg) : Bool :=
  s.fields.all (fun (k, f) => match f with
    | .leaf _ m => if m.isFlag then (match c.get k with | some (.val v) => v.truthy | _ => false) else true
    | _ => true)

def itemPath (path key : String) (pos : Nat) : String := joinPath path key ++ "[" ++ toString pos ++ "]"

mutual
  /-- `Schema._validate(config)` in raising mode: first error, or none -/
  def validateCfg (W : World) : Nat → Schema → String → Cfg → Option CErr
    | 0, _, _, _ => some (.raw "fuel")
    | fuel + 1, s, path, c =>
      if !featureEnabled s c then none else
      match validateFields W fuel path c s.fields with
      | some e => some e
      | none =>
        if s.validators.all (fun v => schemaValidator v c) then none else some (.validation path)
  /-- what `_validate_field` finds wrong with one field -/
  def fieldProblem (W : World) : Nat → String → Cfg → String → SField → Option CErr
    | _, path, c, k, .leaf fs _ =>
      (match c.get k with
       | some (.val v) => (match validate W.fe.toEnv fs v with
           | .ok _ => none
           | .error e => some (fieldErr path k e))
       | _ => none)
    | fuel, path, c, k, .sub s' => (match c.get k with
        | some (.node sub) => validateCfg W fuel s' (joinPath path k) sub
        | _ => none)
    | fuel, path, c, k, .ctype s' _ => (match c.get k with
        | some (.node sub) => validateCfg W fuel s' (joinPath path k) sub
        | _ => none)
    | _, path, c, k, .cfgList _ _ req _ => (match c.get k with
        | some (.nodes cs) => if req && cs.isEmpty then some (.validation (joinPath path k)) else none
        | some (.val .none) => if req then some (.validation (joinPath path k)) else none
        | _ => none)
    | _, _, _, _, .virtual _ _ => none
    | _, _, _, _, .method => none
  /-- the loop over the schema's fields (virtual and instance-method fields are skipped by `fieldProblem`; an include field is a
      filename field like any other: required means set — F61) -/
  def validateFields (W : World) : Nat → String → Cfg → List (String × SField) → Option CErr
    | _, _, _, [] => none
    | fuel, path, c, (k, f) :: rest =>
      match fieldProblem W fuel path c k f with
      | some e => some e
      | none => validateFields W fuel path c rest
end

/-- what `load_tree` does with one `(key, value)` before `_set_value`: leaf fields bound to a set environment variable are
    skipped (`none`); leaf values are decoded with `to_python` (errors wrapped for that field); the rest is passed on -/
def decodeEntry (W : World) (s : Schema) (path : String) (c : Cfg) (k : String) (value : Val) : Option (Except CErr Arg) :=
  match getField s c k with
  | .declared (.leaf f m) =>
    if (envValue W m).isSome then none
    else (match toPython W.fe f value with
      | .ok v => some (.ok (.val v))
      | .error e => some (.error (fieldErr path k e)))
  | .declared (.cfgList _ _ _ m) =>
    if (envValue W m).isSome then none
    else
      -- ListField.to_python builds the proxy from `value or []`: null and other falsy values load as an empty list
      (match value with
       | .list xs => some (.ok (.val (.list xs)))
       | .tuple xs => some (.ok (.val (.list xs)))
       | v => if v.truthy then some (.error (.validation (joinPath path k))) else some (.ok (.val (.list []))))
  | _ => some (.ok (.val value))

mutual
  /-- `Config._set_value(key, value)` on the configuration at `path` built from schema `s` -/
  def setValue (W : World) : Nat → Schema → String → Cfg → String → Arg → Nat → Out
    | 0, _, _, c, _, _, n => { cfg := c, err := some (.raw "fuel"), next := n }
    | fuel + 1, s, path, c, k, a, n =>
      match getField s c k with
      | .missing =>
        if !s.dynamic then { cfg := c, err := some .attribute, next := n }
        else
          -- a new AnyField is registered on the configuration, then the value goes through it (it never rejects)
          let c1 := c.withDyn (c.dyn ++ [k])
          (match a with
           | .val v => { cfg := c1.setUser k (.val v), next := n }
           | .cfg sub _ => { cfg := c1.setUser k (.node sub), next := n })
      | .dynamic =>
        (match a with
         | .val v => { cfg := c.setUser k (.val v), next := n }
         | .cfg sub _ => { cfg := c.setUser k (.node sub), next := n })
      | .declared (.leaf f _) =>
        (match a with
         | .val v =>
           (match validate W.fe.toEnv f v with
            | .ok v' => { cfg := c.setUser k (.val v'), next := n }
            | .error e => { cfg := c, err := some (fieldErr path k e), next := n })
         | .cfg _ _ =>
           (match validate W.fe.toEnv f (.opaque "Config") with
            | .ok v' => { cfg := c.setUser k (.val v'), next := n }
            | .error e => { cfg := c, err := some (fieldErr path k e), next := n }))
      | .declared (.virtual _ hasSetter) =>
        if hasSetter then { cfg := c, next := n } else { cfg := c, err := some (.validation (joinPath path k)), next := n }
      | .declared .method => { cfg := c, err := some (.validation (joinPath path k)), next := n }
      | .declared (.sub s') => setSub W fuel s' none path c k a n
      | .declared (.ctype s' kf) => setSub W fuel s' kf path c k a n
      | .declared (.cfgList s' _ req _) =>
        (match a with
         | .val (.list items) =>
           (match loadItems W fuel s' path k 0 items [] n with
            | (.ok cs, n') =>
              if req && cs.isEmpty then { cfg := c, err := some (.validation (joinPath path k)), next := n' }
              else { cfg := c.setUser k (.nodes cs), next := n' }
            | (.error e, n') =>
              -- raised inside `field.validate`: a ValidationError passes through, anything else is wrapped for this field
              { cfg := c, err := some (match e with | .validation p => .validation p | _ => .validation (joinPath path k)), next := n' })
         | .val .none => if req then { cfg := c, err := some (.validation (joinPath path k)), next := n }
                         else { cfg := c.setUser k (.val .none), next := n }
         | _ => { cfg := c, err := some (.validation (joinPath path k)), next := n })
  /-- the non-Field branch of `_set_value`: a configuration of that schema is re-parented and stored; a map becomes a
      *new* configuration under this parent, loaded and validated before it is stored; anything else is rejected -/
  def setSub (W : World) : Nat → Schema → Option String → String → Cfg → String → Arg → Nat → Out
    | fuel, s', kf, path, c, k, a, n =>
      match a with
      | .cfg sub same =>
        if same then { cfg := c.setUser k (.node (sub.withLinked true)), next := n }
        else { cfg := c, err := some (.validation (joinPath path k)), next := n }
      | .val (.dict kvs) =>
        (match build W (joinPath path k) true kf s' n with
         | .error e => { cfg := c, err := some e, next := n }
         | .ok (fresh, n1) =>
           let o := loadTree W fuel s' (joinPath path k) fresh kvs true n1
           (match o.err with
            | some e => { cfg := c, err := some e, next := o.next }
            | none => { cfg := c.setUser k (.node o.cfg), next := o.next }))
      | .val _ => { cfg := c, err := some (.validation (joinPath path k)), next := n }
  /-- `ListProxy(cfg, list_field, items)` over a schema: every map becomes a new configuration (loaded and validated) -/
  def loadItems (W : World) : Nat → Schema → String → String → Nat → List Val → List Cfg → Nat → (Except CErr (List Cfg)) × Nat
    | _, _, _, _, _, [], acc, n => (.ok acc.reverse, n)
    | fuel, s', path, k, pos, item :: rest, acc, n =>
      match item with
      | .dict kvs =>
        (match build W (itemPath path k pos) true none s' n with
         | .error e => (.error e, n)
         | .ok (fresh, n1) =>
           let o := loadTree W fuel s' (itemPath path k pos) fresh kvs true n1
           (match o.err with
            | some e => (.error e, o.next)
            | none => loadItems W fuel s' path k (pos + 1) rest (o.cfg :: acc) o.next))
      | _ => (.error (.validation (joinPath path k)), n)
  /-- `Config.load_tree(tree, validate)` -/
  def loadTree (W : World) : Nat → Schema → String → Cfg → List (Val × Val) → Bool → Nat → Out
    | fuel, s, path, c, [], doValidate, n =>
      if doValidate then { cfg := c, err := validateCfg W (fuel + 1) s path c, next := n } else { cfg := c, next := n }
    | fuel, s, path, c, (key, value) :: rest, doValidate, n =>
      match key with
      | .str ks =>
        let k := String.ofList ks
        (match decodeEntry W s path c k value with
         | none => loadTree W fuel s path c rest doValidate n
         | some (.error e) => { cfg := c, err := some e, next := n }
         | some (.ok a) =>
           let o := setValue W fuel s path c k a n
           (match o.err with
            | some e => { cfg := o.cfg, err := some e, next := o.next }
            | none => loadTree W fuel s path o.cfg rest doValidate o.next))
      | _ => { cfg := c, err := some (.raw "unmodelled-key"), next := n }
end

end Cinco.Config

namespace Cinco.Config
open Cinco Cinco.Field

/-- split a dotted key at the first dot: `key.partition(".")` -/
def partitionDot : List Char → List Char × Option (List Char)
  | [] => ([], none)
  | c :: rest =>
    if c == '.' then ([], some rest)
    else
      let r := partitionDot rest
      (c :: r.1, r.2)

theorem partitionDot_no_dot : ∀ (l : List Char), '.' ∉ l → partitionDot l = (l, none) := by
  intro l h
  induction l with
  | nil => rfl
  | cons c rest ih =>
    have hc : (c == '.') = false := by
      simp only [beq_eq_false_iff_ne, ne_eq]; intro e; subst e; exact h (by simp)
    simp [partitionDot, hc, ih fun hm => h (by simp [hm])]

def subSchema : SField → Option (Schema × Option String)
  | .sub s => some (s, none)
  | .ctype s kf => some (s, kf)
  | _ => none

/-- `Config.__setitem__(dotted, value)`: walk `_get_value(key).__setitem__(subkey, value)` down to `_set_value` -/
def setItem (W : World) : Nat → Schema → String → Cfg → List Char → Arg → Nat → Out
  | 0, _, _, c, _, _, n => { cfg := c, err := some (.raw "fuel"), next := n }
  | fuel + 1, s, path, c, dotted, a, n =>
    match partitionDot dotted with
    | (k, none) => setValue W (fuel + 1) s path c (String.ofList k) a n
    | (k, some rest) =>
      if rest.isEmpty then setValue W (fuel + 1) s path c (String.ofList k) a n else
      let key := String.ofList k
      match getField s c key with
      | .missing => { cfg := c, err := some (if s.dynamic then .raw "AttributeError" else .attribute), next := n }
      | .dynamic => { cfg := c, err := some (.raw "TypeError"), next := n }
      | .declared f =>
        match subSchema f, c.get key with
        | some (s', _), some (.node sub) =>
          let o := setItem W fuel s' (joinPath path key) sub rest a n
          { cfg := c.set key (.node o.cfg), err := o.err, next := o.next }
        | _, _ => { cfg := c, err := some (.raw "TypeError"), next := n }

/-- walk a dotted key down to the configuration that owns the last component (`config[path]` in support.py) -/
def walk : Nat → Schema → String → Cfg → List Char → Option (Schema × String × Cfg × String)
  | 0, _, _, _, _ => none
  | fuel + 1, s, path, c, dotted =>
    match partitionDot dotted with
    | (k, none) => some (s, path, c, String.ofList k)
    | (k, some rest) =>
      let key := String.ofList k
      match s.get key with
      | some f =>
        (match subSchema f, c.get key with
         | some (s', _), some (.node sub) => walk fuel s' (joinPath path key) sub rest
         | _, _ => none)
      | none => none

/-- replace the configuration reached by a dotted prefix -/
def replaceAt : Nat → Cfg → List Char → (Cfg → Cfg) → Cfg
  | 0, c, _, _ => c
  | fuel + 1, c, dotted, g =>
    match partitionDot dotted with
    | (_, none) => g c
    | (k, some rest) =>
      match c.get (String.ofList k) with
      | some (.node sub) => c.set (String.ofList k) (.node (replaceAt fuel sub rest g))
      | _ => c

/-- `cincoconfig.is_value_defined(config, dotted)` -/
def isDefined (fuel : Nat) (s : Schema) (c : Cfg) (dotted : List Char) : Option Bool :=
  match walk fuel s "" c dotted with
  | some (_, _, owner, k) => some (!owner.defaults.contains k)
  | none => none

/-- `cincoconfig.reset_value(config, dotted)`: the field's `__setdefault__` on the owning configuration -/
def resetValue (W : World) (fuel : Nat) (s : Schema) (c : Cfg) (dotted : List Char) (n : Nat) : Out :=
  match walk fuel s "" c dotted with
  | none => { cfg := c, err := some (.raw "KeyError"), next := n }
  | some (s', path, owner, k) =>
    match getField s' owner k with
    | .missing => { cfg := c, err := some .attribute, next := n }
    | .dynamic => { cfg := replaceAt fuel c dotted (fun o => o.setDefault k (.val .none)), next := n }
    | .declared f =>
      match setDefault W path k f owner n with
      | .ok (owner', n') => { cfg := replaceAt fuel c dotted (fun _ => owner'), next := n' }
      | .error e => { cfg := c, err := some e, next := n }

/-- `len(str(value))` for the values a one-character mask is stretched over -/
def strLen : Val → Nat
  | .str s => s.length
  | .int i => (toString i).length
  | .bool b => if b then 4 else 5
  | _ => 0

def maskValue (mask : Str) (v : Val) : Val :=
  if !v.truthy then .none
  else if mask.length == 1 then .str (List.replicate (strLen v) (mask.headD ' '))
  else .str mask

mutual
  /-- `Config.to_tree(virtual, sensitive_mask)`; `none` = it raised -/
  def toTree (W : World) : Nat → Schema → Cfg → Bool → Option Str → Option (List (Val × Val))
    | 0, _, _, _, _ => none
    | fuel + 1, s, c, virt, mask =>
      match toTreeFields W fuel c virt mask s.fields with
      | none => none
      | some declared =>
        -- dynamically added fields come after the declared ones
        let extra := c.dyn.filterMap (fun k => if (s.get k).isSome then none else
          match c.get k with
          | some (.val v) => some (Val.str k.toList, v)
          | _ => none)
        some (declared ++ extra)
  /-- how one declared field is rendered (the body of the loop in `to_tree`): `none` = raised, `some none` = key skipped -/
  def renderField (W : World) : Nat → Cfg → Bool → Option Str → String → SField → Option (Option Val)
    | _, _, _, _, _, .method => some none
    | _, _, virt, _, _, .virtual const _ => if virt then some (some const) else some none
    | fuel, c, virt, mask, k, .sub s' => (match c.get k with
        | some (.node sub) => (toTree W fuel s' sub virt mask).map (fun t => some (.dict t))
        | some (.val v) => some (some v)
        | _ => some none)
    | fuel, c, virt, mask, k, .ctype s' _ => (match c.get k with
        | some (.node sub) => (toTree W fuel s' sub virt mask).map (fun t => some (.dict t))
        | some (.val v) => some (some v)
        | _ => some none)
    | fuel, c, virt, mask, k, .cfgList s' _ _ _ => (match c.get k with
        | some (.nodes cs) => (toTreeItems W fuel s' virt mask cs).map (fun ts => some (.list ts))
        | some (.val v) => some (some v)
        | _ => some none)
    | _, c, _, mask, k, .leaf fs m => (match c.get k with
        | some (.val v) =>
          if m.sensitive && mask.isSome then some (some (maskValue (mask.getD []) v))
          else (match toBasic W.fe fs v with
            | .ok b => some (some b)
            | .error _ => none)
        | _ => some none)
  def toTreeFields (W : World) : Nat → Cfg → Bool → Option Str → List (String × SField) → Option (List (Val × Val))
    | _, _, _, _, [] => some []
    | fuel, c, virt, mask, (k, f) :: rest =>
      match renderField W fuel c virt mask k f, toTreeFields W fuel c virt mask rest with
      | some (some v), some t => some ((Val.str k.toList, v) :: t)
      | some none, some t => some t
      | _, _ => none
  def toTreeItems (W : World) : Nat → Schema → Bool → Option Str → List Cfg → Option (List Val)
    | _, _, _, _, [] => some []
    | fuel, s', virt, mask, c :: rest =>
      match toTree W fuel s' c virt mask, toTreeItems W fuel s' virt mask rest with
      | some t, some ts => some (.dict t :: ts)
      | _, _ => none
end

end Cinco.Config

namespace Cinco.Config
open Cinco Cinco.Field

/-- `config.validate(collect_errors=True)`: every field's problem, then every failing schema validator -/
def validateCollect (W : World) (fuel : Nat) (s : Schema) (path : String) (c : Cfg) : List CErr :=
  if !featureEnabled s c then [] else
  (s.fields.filterMap (fun (k, f) => fieldProblem W fuel path c k f)) ++
  (s.validators.filterMap (fun v => if schemaValidator v c then none else some (.validation path)))

end Cinco.Config
