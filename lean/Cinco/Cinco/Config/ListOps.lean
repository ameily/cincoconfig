import Cinco.Config.Ops
import Cinco.Proxy.PyList
/-
  In-place operations on a list of configurations (`ListProxy` over a schema or config type,
  cincoconfig/fields/list_field.py): `lst.append(item)`, `lst.insert(i, item)`, `lst[i] = item` with a map as
  the new item.  `ListProxy._validate` builds a new configuration under the owning configuration, loads the map
  into it with validation, and only then hands it to the built-in list operation.
-/
namespace Cinco.Config
open Cinco Cinco.Field

inductive ListMode where
  | append
  | insert (i : Int)
  | setIdx (i : Int)
deriving Repr

/-- the built-in list operation once the new item exists; `none` = IndexError -/
def spliceCfg (cs : List Cfg) (item : Cfg) : ListMode → Option (List Cfg)
  | .append => some (cs ++ [item])
  | .insert i => let p := PyList.insertPos cs.length i; some (cs.take p ++ item :: cs.drop p)
  | .setIdx i => (PyList.resolveIdx cs.length i).map (fun p => cs.take p ++ item :: cs.drop (p + 1))

/-- the configurations a slot of a list-of-configurations field holds (`none`: no list there) -/
def heldItems : Slot → Option (List Cfg)
  | .nodes cs => some cs
  | .val (.list []) => some []
  | _ => none

/-- validate the new item (its error path carries the position one past the end: it is not in the list yet), then splice -/
def cfgListCore (W : World) (fuel : Nat) (s' : Schema) (path k : String) (c : Cfg) (dotted : List Char) (cs : List Cfg)
    (mode : ListMode) (item : Val) (n : Nat) : Out :=
  match (match item with
         | .dict _ => loadItems W fuel s' path k cs.length [item] [] n
         | _ => (.error (.raw "ValueError"), n)) with      -- "invalid configuration object": raised by the proxy itself, not wrapped
  | (.error e, n1) => { cfg := c, err := some e, next := n1 }
  | (.ok [], n1) => { cfg := c, err := some (.raw "ValueError"), next := n1 }
  | (.ok (fresh :: _), n1) =>
    match spliceCfg cs fresh mode with
    | none => { cfg := c, err := some (.raw "IndexError"), next := n1 }
    | some cs' => { cfg := replaceAt fuel c dotted (fun o => o.set k (.nodes cs')), next := n1 }

/-- an index assignment whose index names no item: refused before the new item is looked at (F76) -/
def noSlot (cs : List Cfg) : ListMode → Bool
  | .setIdx i => (PyList.resolveIdx cs.length i).isNone
  | _ => false

/-- `cfg[dotted].append / insert / __setitem__` with a new item value -/
def cfgListOp (W : World) (fuel : Nat) (s : Schema) (c : Cfg) (dotted : List Char) (mode : ListMode) (item : Val) (n : Nat) : Out :=
  match walk fuel s "" c dotted with
  | none => { cfg := c, err := some (.raw "KeyError"), next := n }
  | some (s1, path, owner, k) =>
    match s1.get k with
    | some (.cfgList s' _ _ _) =>
      (match (owner.get k).bind heldItems with
       | none => { cfg := c, err := some (match mode with | .setIdx _ => .raw "TypeError" | _ => .attribute), next := n }
       | some cs =>
         if noSlot cs mode then { cfg := c, err := some (.raw "IndexError"), next := n }
         else cfgListCore W fuel s' path k c dotted cs mode item n)
    | _ => { cfg := c, err := some .attribute, next := n }

theorem cfgListCore_rejected_unchanged (W : World) (fuel : Nat) (s' : Schema) (path k : String) (c : Cfg) (dotted : List Char)
    (cs : List Cfg) (mode : ListMode) (item : Val) (n : Nat) (e : CErr)
    (h : (cfgListCore W fuel s' path k c dotted cs mode item n).err = some e) :
    (cfgListCore W fuel s' path k c dotted cs mode item n).cfg = c := by
  have key : (cfgListCore W fuel s' path k c dotted cs mode item n).cfg = c ∨
      (cfgListCore W fuel s' path k c dotted cs mode item n).err = none := by
    unfold cfgListCore
    split
    · exact .inl rfl
    · exact .inl rfl
    · split
      · exact .inl rfl
      · exact .inr rfl
  exact key.resolve_right (by rw [h]; exact fun h' => by cases h')

/-- **A rejected in-place list operation leaves the configuration exactly as it was** (whatever the reason: the new item's
    map is rejected by the item schema, the item is not a map, or the index is out of range). -/
theorem cfgListOp_rejected_unchanged (W : World) (fuel : Nat) (s : Schema) (c : Cfg) (dotted : List Char) (mode : ListMode)
    (item : Val) (n : Nat) (e : CErr) (h : (cfgListOp W fuel s c dotted mode item n).err = some e) :
    (cfgListOp W fuel s c dotted mode item n).cfg = c := by
  have key : (cfgListOp W fuel s c dotted mode item n).cfg = c ∨
      ∃ s' path k cs, cfgListOp W fuel s c dotted mode item n = cfgListCore W fuel s' path k c dotted cs mode item n := by
    unfold cfgListOp
    split
    · exact .inl rfl
    · split
      · split
        · exact .inl rfl
        · split
          · exact .inl rfl
          · exact .inr ⟨_, _, _, _, rfl⟩
      · exact .inl rfl
  rcases key with hc | ⟨s', path, k, cs, heq⟩
  · exact hc
  · rw [heq] at h ⊢
    exact cfgListCore_rejected_unchanged W fuel s' path k c dotted cs mode item n e h

/-- **An index assignment into a list of configurations whose index names no item consumes nothing and changes nothing**
    (finding F76): the item map is not loaded (no fresh configuration is built, no salt / IV is drawn: `next` stays `n`), the
    configuration is returned as it is, and the error is the built-in's `IndexError` — whatever the item. -/
theorem cfgListOp_no_slot (W : World) (fuel : Nat) (s s1 s' : Schema) (c owner : Cfg) (dotted : List Char) (path k : String)
    (it : Bool) (req : Bool) (m : LeafMeta) (cs : List Cfg) (i : Int) (item : Val) (n : Nat)
    (hw : walk fuel s "" c dotted = some (s1, path, owner, k)) (hf : s1.get k = some (.cfgList s' it req m))
    (hh : (owner.get k).bind heldItems = some cs) (hi : PyList.resolveIdx cs.length i = none) :
    cfgListOp W fuel s c dotted (.setIdx i) item n = { cfg := c, err := some (.raw "IndexError"), next := n } := by
  simp [cfgListOp, hw, hf, hh, noSlot, hi]

end Cinco.Config
