import Cinco.Field.Validate
/-
  `DictProxy` (cincoconfig/fields/dict_field.py:25-146) in code order over a key field and a value field, next to
  the same operations on a built-in dict (insertion-ordered association list).
-/
namespace Cinco.Proxy
open Cinco Cinco.Field

def dictDel (k : Val) : List (Val × Val) → List (Val × Val)
  | [] => []
  | (k', v) :: rest => if k' == k then rest else (k', v) :: dictDel k rest

def dictLookup (k : Val) : List (Val × Val) → Option Val
  | [] => none
  | (k', v) :: rest => if k' == k then some v else dictLookup k rest

inductive DOp where
  | set (k v : Val)
  | update (pairs : List (Val × Val)) (compatibleProxy : Bool) (kw : List (Val × Val))   -- update(iterable, **kw)
  | setdefault (k : Val) (v : Option Val)
  | ior (pairs : List (Val × Val))
  | pop (k : Val) (dflt : Option Val)
  | popitem
  | del (k : Val)
  | clear

inductive DOut where
  | none
  | value (v : Val)
  | keyError
  | rejected (key : Val)         -- ValidationError naming the entry
  deriving DecidableEq, Repr

/-- `self._validate(key, value)` -/
def validateEntry (E : Env) (kf vf : Option FieldSpec) (k v : Val) : Except Val (Val × Val) :=
  match validateOpt E kf k with
  | .error _ => .error k
  | .ok k' =>
    match validateOpt E vf v with
    | .error _ => .error k
    | .ok v' => .ok (k', v')

def validateEntries (E : Env) (kf vf : Option FieldSpec) : List (Val × Val) → Except Val (List (Val × Val))
  | [] => .ok []
  | (k, v) :: rest =>
    match validateEntry E kf vf k v with
    | .error e => .error e
    | .ok kv =>
      match validateEntries E kf vf rest with
      | .error e => .error e
      | .ok r => .ok (kv :: r)

theorem validateEntry_eq_ok {E : Env} {kf vf : Option FieldSpec} {k v k' v' : Val} :
    validateEntry E kf vf k v = .ok (k', v') ↔ validateOpt E kf k = .ok k' ∧ validateOpt E vf v = .ok v' := by
  unfold validateEntry
  cases validateOpt E kf k <;> cases validateOpt E vf v <;> simp

theorem validateEntries_cons_ok {E : Env} {kf vf : Option FieldSpec} {k v : Val} {rest ps : List (Val × Val)}
    (h : validateEntries E kf vf ((k, v) :: rest) = .ok ps) :
    ∃ kv r, validateEntry E kf vf k v = .ok kv ∧ validateEntries E kf vf rest = .ok r ∧ ps = kv :: r := by
  simp only [validateEntries] at h
  split at h
  · cases h
  · split at h
    · cases h
    · cases h; exact ⟨_, _, ‹_›, ‹_›, rfl⟩

def setAll (d : List (Val × Val)) (pairs : List (Val × Val)) : List (Val × Val) :=
  pairs.foldl (fun acc (kv : Val × Val) => dictSet kv.1 kv.2 acc) d

/-- `for key, value in kwargs.items(): self.__setitem__(key, value)`: sequential, stops at the first rejection -/
def setSeq (E : Env) (kf vf : Option FieldSpec) : List (Val × Val) → List (Val × Val) → List (Val × Val) × DOut
  | d, [] => (d, .none)
  | d, (k, v) :: rest =>
    match validateEntry E kf vf k v with
    | .error e => (d, .rejected e)
    | .ok (k', v') => setSeq E kf vf (dictSet k' v' d) rest

/-- the entry held under the key's normal form, when the key is acceptable -/
def presentUnder (E : Env) (kf : Option FieldSpec) (d : List (Val × Val)) (k : Val) : Option Val :=
  match validateOpt E kf k with
  | .ok k0 => dictLookup k0 d
  | .error _ => none

theorem presentUnder_of_ok {E : Env} {kf vf : Option FieldSpec} {k x k' v' : Val} (d : List (Val × Val))
    (h : validateEntry E kf vf k x = .ok (k', v')) : presentUnder E kf d k = dictLookup k' d := by
  simp only [presentUnder, (validateEntry_eq_ok.1 h).1]

def dstep (E : Env) (kf vf : Option FieldSpec) (d : List (Val × Val)) : DOp → List (Val × Val) × DOut
  | .set k v =>
    (match validateEntry E kf vf k v with
     | .ok (k', v') => (dictSet k' v' d, .none)
     | .error e => (d, .rejected e))
  | .update pairs compat kw =>
    -- the iterable is validated as a whole (a list comprehension) before `dict.update`; keywords go one by one afterwards
    let afterIter : Except Val (List (Val × Val)) :=
      if pairs.isEmpty then .ok d
      else if compat then .ok (setAll d pairs)
      else (validateEntries E kf vf pairs).map (setAll d)
    (match afterIter with
     | .error e => (d, .rejected e)
     | .ok d1 => setSeq E kf vf d1 kw)
  | .setdefault k v =>
    -- an entry that is present under the normalised key is returned before the default is looked at (like dict.setdefault; F55)
    (match presentUnder E kf d k with
     | some old => (d, .value old)
     | none =>
       (match validateEntry E kf vf k (v.getD .none) with
        | .error e => (d, .rejected e)
        | .ok (k', v') =>
          (match dictLookup k' d with
           | some old => (d, .value old)
           | none => (dictSet k' v' d, .value v'))))
  | .ior pairs =>
    if pairs.isEmpty then (d, .none) else
    (match validateEntries E kf vf pairs with
     | .error e => (d, .rejected e)
     | .ok ps => (setAll d ps, .none))
  | .pop k dflt =>
    (match dictLookup k d with
     | some v => (dictDel k d, .value v)
     | none => (match dflt with | some x => (d, .value x) | none => (d, .keyError)))
  | .popitem =>
    (match d.getLast? with
     | some (k, v) => (d.dropLast, .value (.tuple [k, v]))
     | none => (d, .keyError))
  | .del k => (match dictLookup k d with | some _ => (dictDel k d, .none) | none => (d, .keyError))
  | .clear => ([], .none)

/-- `update` without its test for an empty iterable: validating nothing and storing nothing is what the test skips -/
theorem dstep_update (E : Env) (kf vf : Option FieldSpec) (d pairs : List (Val × Val)) (compat : Bool) (kw : List (Val × Val)) :
    dstep E kf vf d (.update pairs compat kw) =
      match (if compat then .ok pairs else validateEntries E kf vf pairs : Except Val (List (Val × Val))) with
      | .error e => (d, .rejected e)
      | .ok ps => setSeq E kf vf (setAll d ps) kw := by
  cases pairs with
  | nil => cases compat <;> rfl
  | cons p ps =>
    cases compat with
    | true => rfl
    | false =>
      simp only [dstep, List.isEmpty_cons, Bool.false_eq_true, if_false]
      cases validateEntries E kf vf (p :: ps) <;> rfl

theorem dstep_ior (E : Env) (kf vf : Option FieldSpec) (d pairs : List (Val × Val)) :
    dstep E kf vf d (.ior pairs) =
      match validateEntries E kf vf pairs with
      | .error e => (d, .rejected e)
      | .ok ps => (setAll d ps, .none) := by
  cases pairs <;> rfl

/-- the same operation on a built-in dict handed normalised keys and values -/
def bdstep (d : List (Val × Val)) : DOp → List (Val × Val) × DOut
  | .set k v => (dictSet k v d, .none)
  | .update pairs _ kw => (setAll (setAll d pairs) kw, .none)
  | .setdefault k v =>
    (match dictLookup k d with
     | some old => (d, .value old)
     | none => (dictSet k (v.getD .none) d, .value (v.getD .none)))
  | .ior pairs => (setAll d pairs, .none)
  | .pop k dflt =>
    (match dictLookup k d with
     | some v => (dictDel k d, .value v)
     | none => (match dflt with | some x => (d, .value x) | none => (d, .keyError)))
  | .popitem =>
    (match d.getLast? with
     | some (k, v) => (d.dropLast, .value (.tuple [k, v]))
     | none => (d, .keyError))
  | .del k => (match dictLookup k d with | some _ => (dictDel k d, .none) | none => (d, .keyError))
  | .clear => ([], .none)

def normDOp (E : Env) (kf vf : Option FieldSpec) : DOp → Option DOp
  | .set k v => (validateEntry E kf vf k v).toOption.map (fun kv => .set kv.1 kv.2)
  | .update pairs compat kw =>
    match (if compat then .ok pairs else validateEntries E kf vf pairs), validateEntries E kf vf kw with
    | .ok ps, .ok ks => some (.update ps compat ks)
    | _, _ => none
  | .setdefault k v => (validateEntry E kf vf k (v.getD .none)).toOption.map (fun kv => .setdefault kv.1 (some kv.2))
  | .ior pairs => (validateEntries E kf vf pairs).toOption.map .ior
  | op => some op

end Cinco.Proxy
