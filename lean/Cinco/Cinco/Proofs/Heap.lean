import Cinco.Proofs.HeapRead
/-
  Paths, actions and histories: the lemmas from which C13 and C13b are read off.

  In a heap that is a forest the configuration at path `pB` reaches the one at path `q` only if `pB` is a prefix of `q`
  (`path_prefix`), so an operation at `q` writes nothing that a configuration at an unrelated path reaches (`sep_target`), and
  navigation to it looks at no cell the operation writes (`navCfg_stable`).  `step` and a guarded `transfer` are both an `Acts`:
  a `Shape` whose writable cells are the targets of a path, together with what happens to the table of roots; the invariant
  and frame lemmas of a state are proved once, for `Acts`, and carried over histories by `run_invariant`.  At the end, what `fresh_build_pristine` of C13
  rests on: the declared defaults read the same after any history (`run_default_read`), so a root built now reads as
  `pristine` of the default reads (`Sep.good_of`, `build_cfgN`) and two such roots read alike (`build_same`).
-/
namespace Cinco.Heap

/- derived once for the proofs of this file: see the note in `Proofs/HeapAlloc.lean` -/
attribute [local simp] navCfg buildCfg

theorem getElem_inj_refs {b : Nat} {items : List HVal} {i j : Nat} (hn : (refsOf items).Nodup)
    (e1 : items[i]? = some (.ref b)) (e2 : items[j]? = some (.ref b)) : i = j := by
  -- of two positions that hold a reference, the later one holds a different reference
  rw [refsOf_eq_filterMap, List.Nodup, List.pairwise_filterMap, List.pairwise_iff_getElem] at hn
  obtain ⟨hi, ei⟩ := List.getElem?_eq_some_iff.mp e1
  obtain ⟨hj, ej⟩ := List.getElem?_eq_some_iff.mp e2
  rcases Nat.lt_trichotomy i j with hlt | heq | hgt
  · exact absurd rfl (hn i j hi hj hlt b (by rw [ei]) b (by rw [ej]))
  · exact heq
  · exact absurd rfl (hn j i hj hi hgt b (by rw [ej]) b (by rw [ei]))

theorem lookup_inj {b : Nat} {k1 k2 : String} {l : Slots} (hn : (refsOf (l.map (·.2))).Nodup)
    (e1 : lookup k1 l = some (.ref b)) (e2 : lookup k2 l = some (.ref b)) : k1 = k2 := by
  obtain ⟨i, hi⟩ := lookup_getElem e1
  obtain ⟨j, hj⟩ := lookup_getElem e2
  cases getElem_inj_refs hn (i := i) (j := j) (by rw [List.getElem?_map, hi]; rfl) (by rw [List.getElem?_map, hj]; rfl)
  rw [hi, Option.some.injEq, Prod.mk.injEq] at hj
  exact hj.1

theorem nodup_of_cell {h : Heap} (ns : NoShare h) {x : Nat} {c : Cell} (e : h.cell? x = some c) : (refsOf c.kids).Nodup := by
  obtain ⟨o, e'⟩ := Heap.cell?_some e
  exact ns.nodup x o c e'

theorem move_no_back {h : Heap} (hb : Bounded h) {r r1 : Nat} {s : PStep} (m : PMove h r s r1) (back : Reach h (.ref r1) r) : False := by
  obtain ⟨_, z, k, rz⟩ := m.down
  exact no_cycle hb k (reach_trans rz back)

theorem move_climb {h : Heap} (ns : NoShare h) {r r1 r2 : Nat} {s2 : PStep} (m2 : PMove h r s2 r2) (c1 : IsCfg h r1)
    (hne : r1 ≠ r2) (rr : Reach h (.ref r1) r2) : Reach h (.ref r1) r := by
  cases m2 with
  | fld name k sl dy b hc hl => exact (reach_kid ns (kid_of_cell hc (lookup_mem hl)) rr).resolve_left hne
  | item name n k sl dy l items b hc hl hcl hi =>
    have rl := (reach_kid ns (kid_of_cell hcl (List.mem_of_getElem? hi)) rr).resolve_left hne
    -- `r1` is a configuration, `l` a list
    exact (reach_kid ns (kid_of_cell hc (lookup_mem hl)) rl).resolve_left
      (fun e => Bool.false_ne_true ((e ▸ c1).isCfg hcl))

theorem move_inj {h : Heap} (ns : NoShare h) (hb : Bounded h) {r r1 r2 : Nat} {s s2 : PStep}
    (m1 : PMove h r s r1) (m2 : PMove h r s2 r2) (c1 : IsCfg h r1) (rr : Reach h (.ref r1) r2) : s = s2 ∧ r1 = r2 := by
  have heq : r1 = r2 := Decidable.byContradiction (fun hne => move_no_back hb m1 (move_climb ns m2 c1 hne rr))
  subst heq
  refine ⟨?_, rfl⟩
  -- the result has one parent cell: the configuration itself (`fld`) or the list it is an item of (`item`)
  cases m1 with
  | fld name k sl dy b hc hl =>
    cases m2 with
    | fld name2 k2 sl2 dy2 b2 hc2 hl2 =>
      cases hc.symm.trans hc2
      rw [lookup_inj (nodup_of_cell ns hc) hl hl2]
    | item name2 n2 k2 sl2 dy2 l2 items2 b2 hc2 hl2 hcl2 hi2 =>
      cases ns.parent (kid_of_cell hc (lookup_mem hl)) (kid_of_cell hcl2 (List.mem_of_getElem? hi2))
      cases hc.symm.trans hcl2
  | item name n k sl dy l items b hc hl hcl hi =>
    cases m2 with
    | fld name2 k2 sl2 dy2 b2 hc2 hl2 =>
      cases ns.parent (kid_of_cell hcl (List.mem_of_getElem? hi)) (kid_of_cell hc2 (lookup_mem hl2))
      cases hcl.symm.trans hc2
    | item name2 n2 k2 sl2 dy2 l2 items2 b2 hc2 hl2 hcl2 hi2 =>
      cases ns.parent (kid_of_cell hcl (List.mem_of_getElem? hi)) (kid_of_cell hcl2 (List.mem_of_getElem? hi2))
      cases hc.symm.trans hc2
      cases hcl.symm.trans hcl2
      rw [lookup_inj (nodup_of_cell ns hc) hl hl2, getElem_inj_refs (nodup_of_cell ns hcl) hi hi2]

/-- plan: peel one step off both paths; `reach_chain` orders the two successors, `move_inj` makes the steps equal -/
theorem path_prefix {h : Heap} (ns : NoShare h) (hb : Bounded h) (pB q : List PStep) {r B C : Nat}
    (eB : navCfg h r pB = .ok B) (eC : navCfg h r q = .ok C) (rr : Reach h (.ref B) C) : pB <+: q := by
  induction pB generalizing q r with
  | nil => exact List.nil_prefix
  | cons s pB' ih =>
    obtain ⟨r1, m1, e1⟩ := navCfg_cons eB
    obtain ⟨c1, _, r1B⟩ := navCfg_reach pB' e1
    cases q with
    | nil =>
      obtain ⟨rfl, _⟩ := navCfg_nil eC
      exact (move_no_back hb m1 (reach_trans r1B rr)).elim
    | cons s2 q' =>
      obtain ⟨r2, m2, e2⟩ := navCfg_cons eC
      obtain ⟨c2, _, r2C⟩ := navCfg_reach q' e2
      have r1C : Reach h (.ref r1) C := reach_trans r1B rr
      have hs : s = s2 ∧ r1 = r2 := by
        rcases reach_chain ns r1C r2C with h12 | ⟨_, hx, h21⟩
        · exact move_inj ns hb m1 m2 c1 h12
        · cases hx
          obtain ⟨a, b⟩ := move_inj ns hb m2 m1 c2 h21
          exact ⟨a.symm, b.symm⟩
      obtain ⟨rfl, rfl⟩ := hs
      exact List.cons_prefix_cons.mpr ⟨rfl, ih q' e1 e2⟩

/-- a value path that starts under a cell `X` outside the region of the configuration `B` meets that region at `B` only -/
theorem navVal_sep {h : Heap} (ns : NoShare h) {B : Nat} (cB : IsCfg h B) (steps : List VStep) {X : Nat} {cX : Cell} {v : HVal}
    {a : Nat} (hX : h.cell? X = some cX) (hv : v ∈ cX.kids) (nX : ¬ Reach h (.ref B) X) (e : navVal h v steps = .ok a)
    (rB : Reach h (.ref B) a) : B = a := by
  induction steps generalizing X cX v with
  | nil =>
    cases navVal_nil e
    exact (reach_kid ns (kid_of_cell hX hv) rB).resolve_right nX
  | cons st rest ih =>
    obtain ⟨x, c, w, rfl, hc, hplain, hw, e'⟩ := navVal_cons e
    refine ih hc hw (fun rBx => ?_) e'
    -- `B` is a configuration and `x` is not, so `B` reaching `x` would reach `X`
    cases (reach_kid ns (kid_of_cell hX hv) rBx).resolve_right nX
    exact Bool.false_ne_true (hplain ▸ cB.isCfg hc)

theorem Target.reach {h : Heap} {C a : Nat} (t : Target h C a) : Reach h (.ref C) a := by
  rcases t with rfl | ⟨k, sl, dy, key, v, steps, c, hC, hl, hn, _, _⟩
  · exact .here _
  · obtain ⟨o, e⟩ := Heap.cell?_some hC
    exact .step C o _ v a e (lookup_mem hl) (navVal_reach steps hn)

theorem sep_target {h : Heap} (ns : NoShare h) (hb : Bounded h) {r B C a : Nat} {pB q : List PStep}
    (eB : navCfg h r pB = .ok B) (eC : navCfg h r q = .ok C) (hp : ¬ pB <+: q) (t : Target h C a) : ¬ Reach h (.ref B) a := by
  have nC : ¬ Reach h (.ref B) C := fun rr => hp (path_prefix ns hb pB q eB eC rr)
  obtain ⟨_, cB, _⟩ := navCfg_reach pB eB
  rcases t with rfl | ⟨k, sl, dy, key, v, steps, c, hC, hl, hn, hca, hplain⟩
  · exact nC
  · intro rB
    have := navVal_sep ns cB steps hC (lookup_mem hl) nC hn rB
    subst this
    exact Bool.false_ne_true (hplain ▸ cB.isCfg hca)

theorem PMove.nav {h : Heap} {c b X : Nat} {s : PStep} {rest : List PStep} (m : PMove h c s b) (e : navCfg h b rest = .ok X) :
    navCfg h c (s :: rest) = .ok X := by
  cases m with
  | fld name k sl dy b hc hl => simp only [navCfg, hc, hl]; exact e
  | item name n k sl dy l items b hc hl hcl hi => simp only [navCfg, hc, hl, hcl, hi]; exact e

/-- "above": agreement of the two heaps is asked only strictly above the end cell, so that the lemma serves an action that
    writes the end cell itself (`navCfg_write_end`); likewise `navCfg_stable_above` -/
theorem PMove.stable_above {h h' : Heap} {c b : Nat} {s : PStep} (m : PMove h c s b)
    (agree : ∀ z cz, (∃ y, Kid h z y ∧ Reach h (.ref y) b) → h.cell? z = some cz → h'.cell? z = some cz) : PMove h' c s b := by
  cases m with
  | fld name k sl dy b hc hl =>
    exact .fld name k sl dy b (agree c _ ⟨b, kid_of_cell hc (lookup_mem hl), .here b⟩ hc) hl
  | item name n k sl dy l items b hc hl hcl hi =>
    have kl := kid_of_cell hcl (List.mem_of_getElem? hi)
    exact .item name n k sl dy l items b (agree c _ ⟨l, kid_of_cell hc (lookup_mem hl), kl.reach⟩ hc) hl
      (agree l _ ⟨b, kl, .here b⟩ hcl) hi

theorem PMove.stable {h h' : Heap} {c b : Nat} {s : PStep} (m : PMove h c s b)
    (agree : ∀ z cz, Reach h (.ref z) b → h.cell? z = some cz → h'.cell? z = some cz) : PMove h' c s b :=
  m.stable_above (fun z cz ⟨_, k, r⟩ hz => agree z cz (k.reach_of r) hz)

theorem navCfg_stable_above {h h' : Heap} (p : List PStep) {c X : Nat} (e : navCfg h c p = .ok X)
    (agree : ∀ z cz, (∃ y, Kid h z y ∧ Reach h (.ref y) X) → h.cell? z = some cz → h'.cell? z = some cz) (ic : IsCfg h' X) :
    navCfg h' c p = .ok X := by
  induction p generalizing c with
  | nil =>
    obtain ⟨hX, _⟩ := navCfg_nil e
    subst hX
    exact ic.nav_nil
  | cons s rest ih =>
    obtain ⟨b, m, e'⟩ := navCfg_cons e
    obtain ⟨_, _, rbX⟩ := navCfg_reach rest e'
    have m' := m.stable_above (h' := h') (fun z cz hz hcz => by
      obtain ⟨y, ky, ry⟩ := hz
      exact agree z cz ⟨y, ky, reach_trans ry rbX⟩ hcz)
    exact m'.nav (ih e')

theorem navCfg_stable {h h' : Heap} (p : List PStep) {c X : Nat} (e : navCfg h c p = .ok X)
    (agree : ∀ z cz, Reach h (.ref z) X → h.cell? z = some cz → h'.cell? z = some cz) : navCfg h' c p = .ok X := by
  obtain ⟨_, ⟨k, sl, dy, hX⟩, _⟩ := navCfg_reach p e
  exact navCfg_stable_above p e (fun z cz ⟨_, k, r⟩ hz => agree z cz (k.reach_of r) hz) ⟨k, sl, dy, agree X _ (.here X) hX⟩

theorem navCfg_append {h : Heap} (p1 p2 : List PStep) {c X : Nat} (e : navCfg h c (p1 ++ p2) = .ok X) :
    ∃ A, navCfg h c p1 = .ok A ∧ navCfg h A p2 = .ok X := by
  induction p1 generalizing c with
  | nil =>
    obtain ⟨ic, _, _⟩ := navCfg_reach p2 (by simpa using e)
    exact ⟨c, ic.nav_nil, by simpa using e⟩
  | cons s p1 ih =>
    obtain ⟨b, m, e'⟩ := navCfg_cons (by simpa using e)
    obtain ⟨A, eA, eX⟩ := ih e'
    exact ⟨A, m.nav eA, eX⟩

/-- what an action of root `i` does to the table of roots: nothing, or (`build`) root `i` is appended, a new cell -/
def RootsStep (i : Nat) (s s' : State) : Prop :=
  s'.roots = s.roots ∨ ∃ a, i = s.roots.length ∧ s'.roots = s.roots ++ [a] ∧ s.heap.next ≤ a ∧ a < s'.heap.next

theorem RootsStep.old {i : Nat} {s s' : State} (hr : RootsStep i s s') {j r : Nat} (e : s.roots[j]? = some r) :
    s'.roots[j]? = some r := by
  rcases hr with hr | ⟨a, _, hr, _⟩
  · rw [hr]; exact e
  · rw [hr, List.getElem?_append_left (List.getElem?_eq_some_iff.mp e).1]; exact e

theorem RootsStep.other {i : Nat} {s s' : State} (hr : RootsStep i s s') {j : Nat} (hij : i ≠ j) :
    s'.roots[j]? = s.roots[j]? := by
  rcases hr with hr | ⟨a, hi, hr, _⟩
  · rw [hr]
  · rw [hr]
    by_cases hj : j < s.roots.length
    · exact List.getElem?_append_left hj
    · rw [List.getElem?_eq_none (by simp; omega), List.getElem?_eq_none (by omega)]

theorem RootsStep.cases {i : Nat} {s s' : State} (hr : RootsStep i s s') {k r : Nat} (e : s'.roots[k]? = some r) :
    s.roots[k]? = some r ∨ (k = i ∧ s.heap.next ≤ r ∧ r < s'.heap.next) := by
  rcases hr with hr | ⟨a, hi, hr, ha⟩
  · rw [hr] at e; exact Or.inl e
  · rw [hr, List.getElem?_append] at e
    split at e
    · exact Or.inl e
    · rw [List.getElem?_singleton] at e
      split at e
      · cases e; exact Or.inr ⟨by omega, ha⟩
      · cases e

/-- the cells an action of root `i` at path `q` may write: the targets of the configuration cell the path leads to -/
def PathTarget (s : State) (i : Nat) (q : List PStep) (a : Nat) : Prop :=
  ∃ r C, s.roots[i]? = some r ∧ navCfg s.heap r q = .ok C ∧ Target s.heap C a

theorem PathTarget.of_root {s : State} {i r a : Nat} {q : List PStep} (hr : s.roots[i]? = some r) (t : PathTarget s i q a) :
    ∃ C, navCfg s.heap r q = .ok C ∧ Target s.heap C a := by
  obtain ⟨r', C, hr', hC, t⟩ := t
  cases hr.symm.trans hr'
  exact ⟨C, hC, t⟩

/-- `s'` is `s` after an action of root `i` at path `q`: what `step` and a guarded `transfer` have in common -/
structure Acts (i : Nat) (q : List PStep) (s s' : State) : Prop where
  shape : Shape (PathTarget s i q) i s.heap s'.heap
  roots : RootsStep i s s'

theorem not_prefix_of_incomparable {α : Type} {pA pB rest : List α} (h1 : ¬ pA <+: pB) (h2 : ¬ pB <+: pA) : ¬ pB <+: pA ++ rest := by
  intro hp
  rcases List.prefix_or_prefix_of_prefix (List.prefix_append pA rest) hp with h | h
  · exact h1 h
  · exact h2 h

theorem State.at_some {s : State} {i : Nat} {p : List PStep} {B : Nat} (e : s.at i p = some B) :
    ∃ r, s.roots[i]? = some r ∧ navCfg s.heap r p = .ok B := by
  simp only [State.at] at e
  cases hr : s.roots[i]? with
  | none => simp [hr] at e
  | some r =>
    simp only [hr] at e
    cases hn : navCfg s.heap r p with
    | error er => simp [hn, Except.toOption] at e
    | ok b => simp [hn, Except.toOption] at e; subst e; exact ⟨r, rfl, hn⟩

theorem State.at_of {s : State} {i : Nat} {p : List PStep} {r B : Nat} (hr : s.roots[i]? = some r) (e : navCfg s.heap r p = .ok B) :
    s.at i p = some B := by simp [State.at, hr, e, Except.toOption]

theorem State.cfgAt_congr {s s' : State} {i : Nat} {p : List PStep} {B : Nat} (h' : s'.at i p = some B) (h : s.at i p = some B)
    (e : obsCfg s'.heap B = obsCfg s.heap B) : s'.cfgAt i p = s.cfgAt i p := by
  simp only [State.cfgAt, h', h, Option.map_some, e]

section
variable {T : Nat → Prop} {S : Schemas} {s s' : State} {i : Nat}

theorem Shape.defaultsN (sh : Shape T i s.heap s'.heap) (hs : Sep S s) (n : Nat) :
    obsDefaultsN n s'.heap S = obsDefaultsN n s.heap S := by
  apply List.map_congr_left
  intro sd hsd
  apply List.map_congr_left
  intro p hp
  rw [sh.read hs.closed (o := .schema) (by simp) n p.2 (hs.defaults sd hsd p hp)]

theorem Shape.defaults (sh : Shape T i s.heap s'.heap) (hs : Sep S s) (hb : Bounded s.heap) :
    obsDefaults s'.heap S = obsDefaults s.heap S := by
  apply List.map_congr_left
  intro sd hsd
  apply List.map_congr_left
  intro p hp
  rw [sh.read_builtin hs.closed hb (o := .schema) (by simp) (hs.defaults sd hsd p hp)]

end

section
variable {S : Schemas} {s s' : State} {i : Nat} {q : List PStep}

theorem Acts.sep (act : Acts i q s s') (hs : Sep S s) : Sep S s' := by
  have sh := act.shape
  refine ⟨sh.closed hs.closed, ?_, fun sd hsd p hp => sh.ownedBy (hs.defaults sd hsd p hp), sh.ordered hs.ordered⟩
  intro k r hk
  rcases act.roots.cases hk with hk | ⟨rfl, h1, h2⟩
  · obtain ⟨c0, e0⟩ := hs.roots k r hk
    exact sh.owner e0
  · obtain ⟨⟨o, c⟩, e⟩ := Heap.get?_of_lt h2
    exact ⟨c, sh.owner_new h1 e ▸ e⟩

theorem Acts.inv (act : Acts i q s s') (inv : Inv S s) : Inv S s' :=
  ⟨act.sep inv.sep, act.shape.bounded inv.bounded, act.shape.noShare inv.sep.closed inv.noShare⟩

theorem Acts.obs_other (act : Acts i q s s') {k : Nat} (hik : i ≠ k) {α : Type} (obs : Heap → Nat → α)
    (h : ∀ r, s.roots[k]? = some r → obs s'.heap r = obs s.heap r) :
    (s'.roots[k]?).map (obs s'.heap) = (s.roots[k]?).map (obs s.heap) := by
  rw [act.roots.other hik]
  cases hk : s.roots[k]? with
  | none => rfl
  | some r => exact congrArg some (h r hk)

theorem Owner.cfg_ne {i k : Nat} (hik : i ≠ k) : Owner.cfg k ≠ Owner.cfg i := fun e => hik (Owner.cfg.inj e).symm

theorem Acts.cfgN_other (act : Acts i q s s') (hs : Sep S s) {k : Nat} (hik : i ≠ k) (n : Nat) : s'.cfgN n k = s.cfgN n k :=
  act.obs_other hik (obsCfgN n) (fun r hk => act.shape.read hs.closed (Owner.cfg_ne hik) n _ (hs.roots k r hk))

theorem Acts.cfg_other (act : Acts i q s s') (hs : Sep S s) (hb : Bounded s.heap) {k : Nat} (hik : i ≠ k) :
    s'.cfg k = s.cfg k :=
  act.obs_other hik obsCfg (fun r hk => act.shape.read_builtin hs.closed hb (Owner.cfg_ne hik) (hs.roots k r hk))

theorem Acts.dyn_other (act : Acts i q s s') (hs : Sep S s) {k : Nat} (hik : i ≠ k) : s'.dyn k = s.dyn k := by
  refine act.obs_other hik obsDyn (fun r hk => ?_)
  obtain ⟨c, e⟩ := hs.roots k r hk
  simp only [obsDyn, Heap.cell?_eq e, Heap.cell?_eq (act.shape.frame e (Owner.cfg_ne hik))]

theorem Acts.at_other (act : Acts i q s s') (hs : Sep S s) (hb : Bounded s.heap) {k : Nat} (hik : i ≠ k) {pB : List PStep} {B : Nat}
    (hB : s.at k pB = some B) : s'.at k pB = some B ∧ s'.cfgAt k pB = s.cfgAt k pB := by
  obtain ⟨r, hk, eB⟩ := State.at_some hB
  obtain ⟨cr, er⟩ := hs.roots k r hk
  obtain ⟨kk, sl, dy, e⟩ := navCfg_owned hs.closed er eB
  have hne := Owner.cfg_ne hik
  have hat : s'.at k pB = some B := by
    refine State.at_of (act.roots.old hk) (navCfg_stable pB eB ?_)
    intro z cz rz hz
    obtain ⟨o, ez⟩ := Heap.cell?_some hz
    obtain ⟨cB, eB'⟩ := reach_owned hs.closed rz (o := o) ⟨cz, ez⟩
    rw [e, Option.some.injEq, Prod.mk.injEq] at eB'
    exact Heap.cell?_eq (act.shape.frame ez (eB'.1 ▸ hne))
  exact ⟨hat, State.cfgAt_congr hat hB (act.shape.read_builtin hs.closed hb (o := .cfg k) hne (v := .ref B) ⟨_, e⟩)⟩

/-- what the configuration at `pB` reads as changes only if the action is at or below it -/
theorem Acts.obs_path (act : Acts i q s s') (inv : Inv S s) {pB : List PStep} (hp : ¬ pB <+: q) {B : Nat}
    (hB : s.at i pB = some B) : obsCfg s'.heap B = obsCfg s.heap B := by
  obtain ⟨r, hr, eB⟩ := State.at_some hB
  obtain ⟨cr, er⟩ := inv.sep.roots i r hr
  obtain ⟨k, sl, dy, e⟩ := navCfg_owned inv.sep.closed er eB
  have ov : OwnedBy s.heap (.cfg i) (.ref B) := ⟨_, e⟩
  have frame := act.shape.read_of inv.sep.closed ov (fun _ x rx t => by
    obtain ⟨C, hC, t⟩ := t.of_root hr
    exact sep_target inv.noShare inv.bounded eB hC hp t rx)
  simp only [obsCfg, obsCfgN]
  rw [frame]
  exact read_fuel_irrelevant inv.bounded ov (by have := act.shape.next_le; omega) (by omega)

/-- the address of the configuration at `pB` changes only if the action is at or above it -/
theorem Acts.at_path (act : Acts i q s s') (inv : Inv S s) {pB : List PStep} (hp : ¬ q <+: pB) {B : Nat}
    (hB : s.at i pB = some B) : s'.at i pB = some B := by
  obtain ⟨r, hr, eB⟩ := State.at_some hB
  refine State.at_of (act.roots.old hr) (navCfg_stable pB eB ?_)
  intro z cz rz hz
  obtain ⟨o, ez⟩ := Heap.cell?_some hz
  refine Heap.cell?_eq (act.shape.get?_of ez ?_)
  -- a cell `z` the navigation looks at, if the action may write it, lies below the end of `q` and reaches the end of `pB`
  intro _ t
  obtain ⟨C, hC, t⟩ := t.of_root hr
  exact hp (path_prefix inv.noShare inv.bounded q pB hC eB (reach_trans t.reach rz))

theorem Acts.incomparable (act : Acts i q s s') (inv : Inv S s) {pA rest pB : List PStep} (hq : q = pA ++ rest)
    (h1 : ¬ pA <+: pB) (h2 : ¬ pB <+: pA) {B : Nat} (hB : s.at i pB = some B) :
    s'.at i pB = some B ∧ s'.cfgAt i pB = s.cfgAt i pB :=
  have hat := act.at_path inv (fun hp => h1 ((hq ▸ List.prefix_append pA rest).trans hp)) hB
  ⟨hat, State.cfgAt_congr hat hB (act.obs_path inv (hq ▸ not_prefix_of_incomparable h1 h2) hB)⟩

end

theorem Sep.default_owned {S : Schemas} {s : State} (hs : Sep S s) {sd : SchemaDecl} (hsd : sd ∈ S)
    {name : String} {disc : Disc} {dv : HVal} (hm : (name, FieldDecl.leaf disc dv) ∈ sd.fields) : OwnedBy s.heap .schema dv :=
  hs.defaults sd hsd (name, dv) (mem_leafDefaults hm)

theorem step_acts {S : Schemas} (hS : AllDeep S) {s : State} (hs : Sep S s) (i : Nat) (op : Op) :
    Acts i op.path s (step S s i op).1 := by
  have same : Acts i op.path s s := ⟨Shape.refl _ i _, Or.inl rfl⟩
  cases op with
  | build =>
    have fr := buildCfg_allocates hS (.cfg i) (buildFuel S) 0 s.heap
    simp only [step]
    split
    · rename_i hi
      split
      · rename_i a ha
        have nb := fr.2.val
        rw [ha] at nb
        exact ⟨.allocOnly fr.1, Or.inr ⟨a, hi, rfl, nb⟩⟩
      · exact same
    · exact same
  | _ =>
    -- the other four operations: root, then path, then `execOp`
    simp only [step]
    split
    · exact same
    · rename_i r hr
      split
      · exact same
      · rename_i c hn
        split
        · rename_i h' hx
          obtain ⟨cr, er⟩ := hs.roots i r hr
          obtain ⟨k, sl, dy, ec⟩ := navCfg_owned hs.closed er hn
          exact ⟨(execOp_shape hS hs.closed ec _ hx).weaken (fun a ha => ⟨r, c, hr, hn, ha⟩), Or.inl rfl⟩
        · exact same

theorem step_sep {S : Schemas} (hS : AllDeep S) {s : State} (hs : Sep S s) (i : Nat) (op : Op) : Sep S (step S s i op).1 :=
  (step_acts hS hs i op).sep hs

theorem step_bounded {S : Schemas} (hS : AllDeep S) {s : State} (hs : Sep S s) (hb : Bounded s.heap) (i : Nat) (op : Op) :
    Bounded (step S s i op).1.heap := (step_acts hS hs i op).shape.bounded hb

theorem step_noShare {S : Schemas} (hS : AllDeep S) {s : State} (hs : Sep S s) (ns : NoShare s.heap) (i : Nat) (op : Op) :
    NoShare (step S s i op).1.heap := (step_acts hS hs i op).shape.noShare hs.closed ns

theorem inv_step {S : Schemas} (hS : AllDeep S) {s : State} (inv : Inv S s) (i : Nat) (op : Op) : Inv S (step S s i op).1 :=
  (step_acts hS inv.sep i op).inv inv

/-- a history is a fold of `step`, like the other fold-shaped histories of the development (C01, C12b, C14b, C15b, C17): core's `List.foldl_append`, `List.foldlRecOn`
    carry it -/
theorem run_eq_foldl (S : Schemas) (hist : List (Nat × Op)) (s : State) :
    run S s hist = hist.foldl (fun s p => (step S s p.1 p.2).1) s := by
  induction hist generalizing s with
  | nil => rfl
  | cons p rest ih => exact ih _

theorem run_append (S : Schemas) : ∀ (h1 h2 : List (Nat × Op)) (s : State), run S s (h1 ++ h2) = run S (run S s h1) h2 :=
  fun h1 h2 s => by simp only [run_eq_foldl, List.foldl_append]

theorem run_invariant {S : Schemas} {P : State → Prop} (hist : List (Nat × Op)) {s : State}
    (hstep : ∀ s, P s → ∀ p ∈ hist, P (step S s p.1 p.2).1) (h : P s) : P (run S s hist) :=
  run_eq_foldl S hist s ▸ List.foldlRecOn hist _ h hstep

theorem runOn_invariant {S : Schemas} {P : State → Prop} (i : Nat) (ops : List Op) {s : State}
    (hstep : ∀ s, P s → ∀ o ∈ ops, P (step S s i o).1) (h : P s) : P (runOn S s i ops) := by
  refine run_invariant _ (fun s hs p hp => ?_) h
  obtain ⟨o, ho, rfl⟩ := List.mem_map.mp hp
  exact hstep s hs o ho

theorem run_const {S : Schemas} {α : Type} (f : State → α) {P : State → Prop} (hist : List (Nat × Op)) {s : State}
    (hP : ∀ s, P s → ∀ p ∈ hist, P (step S s p.1 p.2).1) (hf : ∀ s, P s → ∀ p ∈ hist, f (step S s p.1 p.2).1 = f s)
    (h : P s) : f (run S s hist) = f s :=
  (run_invariant (P := fun s' => P s' ∧ f s' = f s) hist
    (fun s' h' p hp => ⟨hP s' h'.1 p hp, (hf s' h'.1 p hp).trans h'.2⟩) ⟨h, rfl⟩).2

theorem inv_run {S : Schemas} (hS : AllDeep S) : ∀ (hist : List (Nat × Op)) {s : State}, Inv S s → Inv S (run S s hist) :=
  fun hist _ inv => run_invariant hist (fun _ h p _ => inv_step hS h p.1 p.2) inv

theorem run_noShare {S : Schemas} (hS : AllDeep S) : ∀ (hist : List (Nat × Op)) {s : State}, Sep S s → NoShare s.heap →
    NoShare (run S s hist).heap :=
  fun hist _ hs ns => (run_invariant (P := fun s => Sep S s ∧ NoShare s.heap) hist
    (fun _ h p _ => ⟨step_sep hS h.1 p.1 p.2, step_noShare hS h.1 h.2 p.1 p.2⟩) ⟨hs, ns⟩).2

theorem step_sep_bounded {S : Schemas} (hS : AllDeep S) {s : State} (h : Sep S s ∧ Bounded s.heap) (i : Nat) (op : Op) :
    Sep S (step S s i op).1 ∧ Bounded (step S s i op).1.heap :=
  ⟨step_sep hS h.1 i op, step_bounded hS h.1 h.2 i op⟩

theorem runOn_inv {S : Schemas} (hS : AllDeep S) (i : Nat) : ∀ (ops : List Op) {s : State}, Sep S s → Bounded s.heap →
    Sep S (runOn S s i ops) ∧ Bounded (runOn S s i ops).heap :=
  fun ops _ hs hb => runOn_invariant (P := fun s => Sep S s ∧ Bounded s.heap) i ops (fun _ h o _ => step_sep_bounded hS h i o) ⟨hs, hb⟩

theorem run_default_read {S : Schemas} (hS : AllDeep S) (hist : List (Nat × Op)) {s : State} (hs : Sep S s)
    {sd : SchemaDecl} (hsd : sd ∈ S) {name : String} {disc : Disc} {dv : HVal} (hm : (name, FieldDecl.leaf disc dv) ∈ sd.fields)
    (n : Nat) : readV n (run S s hist).heap dv = readV n s.heap dv :=
  run_const (fun s => readV n s.heap dv) hist (fun _ h p _ => step_sep hS h p.1 p.2)
    (fun _ h p _ => (step_acts hS h p.1 p.2).shape.read h.closed (o := .schema) (by simp) n _ (h.default_owned hsd hm)) hs

theorem Sep.good_of {S : Schemas} {s : State} (hs : Sep S s) (rd : Nat → HVal → Tree)
    (hrd : ∀ sd ∈ S, ∀ name disc dv, (name, FieldDecl.leaf disc dv) ∈ sd.fields → ∀ n, readV n s.heap dv = rd n dv) :
    Good S rd s.heap :=
  ⟨⟨hs.closed, hs.ordered⟩, fun sd hsd name disc dv hm => ⟨hs.default_owned hsd hm, hrd sd hsd name disc dv hm⟩⟩

theorem Sep.good {S : Schemas} {s : State} (hs : Sep S s) : Good S (fun n v => readV n s.heap v) s.heap :=
  hs.good_of _ (fun _ _ _ _ _ _ _ => rfl)

theorem build_cfgN {S : Schemas} (hS : AllDeep S) {s : State} (hs : Sep S s) (rd : Nat → HVal → Tree)
    (hrd : ∀ sd ∈ S, ∀ name disc dv, (name, FieldDecl.leaf disc dv) ∈ sd.fields → ∀ n, readV n s.heap dv = rd n dv) (n : Nat) :
    (step S s s.roots.length .build).1.cfgN n s.roots.length =
      if (S[0]?).isSome then some (pristine S rd (buildFuel S) n 0) else none := by
  have rd0 := buildCfg_read hS (.cfg s.roots.length) rd (buildFuel S) 0 s.heap (hs.good_of rd hrd) n
  simp only [step]
  cases e : S[0]? with
  | none =>
    have : buildCfg S (.cfg s.roots.length) (buildFuel S) 0 s.heap = (.null, s.heap) := by simp [buildFuel, e]
    simp [this, State.cfgN]
  | some sd =>
    have hb : ∃ a, (buildCfg S (.cfg s.roots.length) (buildFuel S) 0 s.heap).1 = .ref a := by
      simp [buildFuel, e]
    obtain ⟨a, ha⟩ := hb
    rw [ha] at rd0
    simp only [ha, State.cfgN, List.getElem?_concat_length, Option.map_some, Option.isSome_some, if_true, obsCfgN]
    rw [rd0]

theorem cfg_eq_cfgN {S : Schemas} {s : State} (hs : Sep S s) (hb : Bounded s.heap) (j : Nat) {n : Nat} (hn : s.heap.next ≤ n) :
    s.cfg j = s.cfgN n j := by
  simp only [State.cfg, State.cfgN]
  cases hr : s.roots[j]? with
  | none => rfl
  | some r =>
    simp only [Option.map_some, Option.some.injEq, obsCfg, obsCfgN]
    exact read_fuel_irrelevant hb (o := .cfg j) (v := .ref r) (hs.roots j r hr) (by omega) hn

theorem build_same {S : Schemas} (hS : AllDeep S) {s s0 : State} (hs : Sep S s) (hb : Bounded s.heap)
    (hs0 : Sep S s0) (hb0 : Bounded s0.heap)
    (hrd : ∀ sd ∈ S, ∀ name disc dv, (name, FieldDecl.leaf disc dv) ∈ sd.fields → ∀ n, readV n s.heap dv = readV n s0.heap dv) :
    (step S s s.roots.length .build).1.cfg s.roots.length = (step S s0 s0.roots.length .build).1.cfg s0.roots.length := by
  let n := (step S s s.roots.length .build).1.heap.next + (step S s0 s0.roots.length .build).1.heap.next
  rw [cfg_eq_cfgN (step_sep hS hs _ _) (step_bounded hS hs hb _ _) _ (n := n) (by omega),
      cfg_eq_cfgN (step_sep hS hs0 _ _) (step_bounded hS hs0 hb0 _ _) _ (n := n) (by omega),
      build_cfgN hS hs (fun m v => readV m s0.heap v) hrd n,
      build_cfgN hS hs0 (fun m v => readV m s0.heap v) (fun _ _ _ _ _ _ _ => rfl) n]

end Cinco.Heap
