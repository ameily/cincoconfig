import Cinco.Proofs.HeapShape
/-
  What a value reads as (C13).  A deep read depends only on the cells it reaches (`read_agree`); with `Shape.get?_of` this is
  the frame lemma `Shape.read_of`.  In a bounded heap fuel `next` is enough for every read, and `Fresh` and `Shape` keep
  `Bounded`; with that the initial state satisfies the invariant (`compile_fresh`, `sep_init`, `bounded_init`, `inv_init` stand
  here because `Fresh.bounded` does).  A deep copy reads like its original (`copy_read_dep`), a freshly built configuration as `pristine` of the
  default reads (`buildCfg_read`).  Also here: the executable form of `AllDeep` and `DecidableEq Tree`, both for the
  evaluated examples.
-/
namespace Cinco.Heap

/- derived once for the proofs of this file: see the note in `Proofs/HeapAlloc.lean` -/
attribute [local simp] readV copyV leafDefaults buildFields buildCfg pristine pristineFields

/-- the tree a cell reads as, given the reads of the values stored in it -/
def Cell.tree (rd : HVal → Tree) : Cell → Tree
  | .list items => .list (items.map rd)
  | .dict kvs => .dict (kvs.map (fun p => (p.1, rd p.2)))
  | .cfg _ slots _ => .dict (slots.map (fun p => (p.1, rd p.2)))

theorem readV_ref {n : Nat} {h : Heap} {a : Nat} {o : Owner} {c : Cell} (e : h.get? a = some (o, c)) :
    readV (n + 1) h (.ref a) = c.tree (readV n h) := by
  simp only [readV, Heap.cell?_eq e]
  cases c <;> rfl

theorem Cell.tree_congr {f g : HVal → Tree} {c : Cell} (hfg : ∀ w ∈ c.kids, f w = g w) : c.tree f = c.tree g := by
  cases c with
  | list items => exact congrArg Tree.list (List.map_congr_left hfg)
  | dict kvs | cfg k kvs dy =>
    exact congrArg Tree.dict (List.map_congr_left (fun p hp => by rw [hfg p.2 (List.mem_map_of_mem hp)]))

theorem read_agree {h h' : Heap} (P : Nat → Prop)
    (agree : ∀ a, P a → ∃ o c, h.get? a = some (o, c) ∧ h'.get? a = some (o, c) ∧ ∀ b, HVal.ref b ∈ c.kids → P b)
    (n : Nat) (v : HVal) (hv : ∀ b, v = .ref b → P b) : readV n h' v = readV n h v := by
  induction n generalizing v with
  | zero => cases v <;> simp only [readV]
  | succ n ih =>
    cases v with
    | null | atom _ => simp only [readV]
    | ref a =>
      obtain ⟨o, c, e, e', hk⟩ := agree a (hv a rfl)
      rw [readV_ref e, readV_ref e']
      exact Cell.tree_congr (fun w hw => ih w (fun b hb => hk b (hb ▸ hw)))

theorem Shape.read_of {T : Nat → Prop} {i : Nat} {h h' : Heap} (sh : Shape T i h h') (hc : Closed h) {o : Owner} {v : HVal}
    (ov : OwnedBy h o v) (hw : o = .cfg i → ∀ x, Reach h v x → ¬ T x) (n : Nat) : readV n h' v = readV n h v := by
  refine read_agree (fun x => Reach h v x) ?_ n v (fun b hb => hb ▸ .here b)
  intro x rx
  obtain ⟨c, e⟩ := reach_owned hc rx ov
  exact ⟨o, c, e, sh.get?_of e (fun ho => hw ho x rx), fun b hb => reach_trans rx (Kid.reach ⟨o, c, e, hb⟩)⟩

theorem Shape.read {T : Nat → Prop} {i : Nat} {h h' : Heap} (sh : Shape T i h h') (hc : Closed h) {o : Owner} (ho : o ≠ .cfg i)
    (n : Nat) (v : HVal) (ov : OwnedBy h o v) : readV n h' v = readV n h v :=
  sh.read_of hc ov (fun e => absurd e ho) n

theorem read_old {h h' : Heap} (hc : Closed h) (hext : ∀ a p, h.get? a = some p → h'.get? a = some p) (n : Nat) (v : HVal)
    (hv : ∀ b, v = .ref b → b < h.next) : readV n h' v = readV n h v := by
  refine read_agree (fun a => a < h.next) ?_ n v hv
  intro a ha
  obtain ⟨⟨o, c⟩, e⟩ := Heap.get?_of_lt ha
  exact ⟨o, c, e, hext a _ e, fun b hb => (hc a o c e _ hb).lt b rfl⟩

theorem Fresh.read {o : Owner} {h h' : Heap} (f : Fresh o h h') (hc : Closed h) (n : Nat) (v : HVal)
    (hv : ∀ b, v = .ref b → b < h.next) : readV n h' v = readV n h v :=
  read_old hc (fun _ _ => f.get?_of) n v hv

theorem read_enough {h : Heap} {v : HVal} {d : Nat} (hd : Dep h v d) : ∀ (n : Nat), d ≤ n → readV n h v = readV d h v := by
  induction hd with
  | null _ | atom _ _ => intro n _; simp only [readV]
  | ref a o c d e _ ih =>
    intro n hle
    obtain ⟨n', rfl⟩ : ∃ n', n = n' + 1 := ⟨n - 1, by omega⟩
    rw [readV_ref e, readV_ref e]
    exact Cell.tree_congr (fun w hw => ih w hw n' (by omega))

/-- cells from address `m` on refer only to earlier cells from `m` on.  `Fresh.ord` is `OrdFrom h.next h'` written out and is
    passed as one; unlike `Fresh`, `OrdFrom` survives a write below `m` (`OrdFrom.write`), which `Shape.bounded` needs. -/
def OrdFrom (m : Nat) (g : Heap) : Prop :=
  ∀ b o c, m ≤ b → g.get? b = some (o, c) → ∀ v ∈ c.kids, NewBelow m b v

/-- in a family `P` of cells whose references stay in `P` and go strictly down, but not below `m`, the cell at `a` has depth
    at most `a - m + 1` -/
theorem dep_of_ordered {h : Heap} {m : Nat} (P : Nat → Prop)
    (hP : ∀ a, P a → ∃ o c, h.get? a = some (o, c) ∧ ∀ b, HVal.ref b ∈ c.kids → P b ∧ m ≤ b ∧ b < a) :
    ∀ a, P a → Dep h (.ref a) (a - m + 1) := by
  intro a
  induction a using Nat.strongRecOn with
  | _ a ih =>
    intro pa
    obtain ⟨o, c, e, hk⟩ := hP a pa
    refine .ref a o c _ e (fun w hw => ?_)
    cases w with
    | null => exact .null _
    | atom s => exact .atom s _
    | ref b =>
      obtain ⟨pb, hm, hb⟩ := hk b hw
      exact (ih b hb pb).mono (by omega)

theorem OrdFrom.dep {m : Nat} {g : Heap} (og : OrdFrom m g) (b : Nat) (hm : m ≤ b) (hb : b < g.next) :
    Dep g (.ref b) (b - m + 1) := by
  refine dep_of_ordered (fun b => m ≤ b ∧ b < g.next) ?_ b ⟨hm, hb⟩
  intro a ⟨ha, hl⟩
  obtain ⟨⟨o, c⟩, e⟩ := Heap.get?_of_lt hl
  exact ⟨o, c, e, fun b hb => ⟨⟨(og a o c ha e _ hb).1, by have := (og a o c ha e _ hb).2; omega⟩, og a o c ha e _ hb⟩⟩

theorem OrdFrom.write {m : Nat} {g : Heap} (og : OrdFrom m g) {a : Nat} (ha : a < m) (c' : Cell) : OrdFrom m (g.write a c') := by
  intro b o c hm e
  rw [Heap.get?_write_ne c' (by omega)] at e
  exact og b o c hm e

/-- depths carry over from `h` to `g` with a loss of `k`, if every cell of `h` is in `g` with its owner and stores there only
    values it stored in `h` or values of depth `k` -/
theorem Dep.carry {h g : Heap} {k : Nat}
    (hcell : ∀ x o c, h.get? x = some (o, c) → ∃ c', g.get? x = some (o, c') ∧ ∀ w ∈ c'.kids, w ∈ c.kids ∨ Dep g w k)
    {v : HVal} {d : Nat} (hd : Dep h v d) : Dep g v (d + k) := by
  induction hd with
  | null d => exact .null _
  | atom s d => exact .atom s _
  | ref a o c d e _ ih =>
    obtain ⟨c', e', hk⟩ := hcell a o c e
    rw [Nat.add_right_comm]
    exact .ref a o c' _ e' (fun w hw => (hk w hw).elim (ih w) (fun dw => dw.mono (Nat.le_add_left k d)))

theorem Fresh.dep {o : Owner} {h h' : Heap} (f : Fresh o h h') {v : HVal} {d : Nat} (hd : Dep h v d) : Dep h' v d :=
  hd.carry (k := 0) (fun _ _ c e => ⟨c, f.get?_of e, fun _ hw => Or.inl hw⟩)

theorem Fresh.bounded {o : Owner} {h h' : Heap} (f : Fresh o h h') (hb : Bounded h) : Bounded h' := by
  intro a o' c e
  rcases f.cell_cases e with ⟨_, e'⟩ | ⟨l, _⟩
  · exact (f.dep (hb a o' c e')).mono f.next_le
  · exact (OrdFrom.dep (g := h') f.ord a l (Heap.get?_lt e)).mono (by have := Heap.get?_lt e; omega)

theorem Shape.bounded {T : Nat → Prop} {i : Nat} {h h' : Heap} (sh : Shape T i h h') (hb : Bounded h) : Bounded h' := by
  cases sh with
  | allocOnly f => exact f.bounded hb
  | write h1 a c c' v f e kv hk _ _ eq =>
    subst eq
    have hle := f.next_le
    have og : OrdFrom h.next (h1.write a c') := OrdFrom.write f.ord (Heap.get?_lt e) c'
    -- the new cells refer to earlier new cells only: their depth is at most their number
    have hnew : ∀ w, NewBelow h.next h1.next w → Dep (h1.write a c') w (h1.next - h.next) := by
      intro w nb
      cases w with
      | null => exact .null _
      | atom s => exact .atom s _
      | ref y => exact (og.dep y nb.1 (by rw [Heap.next_write]; exact nb.2)).mono (by have := nb.1; have := nb.2; omega)
    intro x o cx ex
    have hx1 : x < h1.next := Heap.next_write h1 a c' ▸ Heap.get?_lt ex
    rw [Heap.next_write]
    by_cases hx : x < h.next
    · -- an old cell keeps its depth, but for the new cells that now hang below `a`
      obtain ⟨⟨o0, c0⟩, e0⟩ := Heap.get?_of_lt hx
      refine ((hb x o0 c0 e0).carry (k := h1.next - h.next) ?_).mono (by omega)
      intro z oz cz ez
      by_cases haz : a = z
      · subst haz
        cases e.symm.trans ez
        exact ⟨c', Heap.get?_write_self c' (f.get?_of e), fun w hw => (hk w hw).imp id (fun (hv : w = v) => hv ▸ hnew v kv.val)⟩
      · exact ⟨cz, (Heap.get?_write_ne c' haz).trans (f.get?_of ez), fun _ hw => Or.inl hw⟩
    · exact (hnew (.ref x) ⟨Nat.le_of_not_lt hx, hx1⟩).mono (Nat.sub_le _ _)

theorem Bounded.dep_owned {h : Heap} (hb : Bounded h) {o : Owner} {v : HVal} (ov : OwnedBy h o v) : Dep h v h.next := by
  cases v with
  | null => exact .null _
  | atom s => exact .atom s _
  | ref a => obtain ⟨c, e⟩ := ov; exact hb a o c e

theorem read_fuel_irrelevant {h : Heap} (hb : Bounded h) {o : Owner} {v : HVal} (ov : OwnedBy h o v) {n m : Nat}
    (hn : h.next ≤ n) (hm : h.next ≤ m) : readV n h v = readV m h v := by
  rw [read_enough (hb.dep_owned ov) n hn, read_enough (hb.dep_owned ov) m hm]

theorem Shape.read_builtin {T : Nat → Prop} {i : Nat} {h h' : Heap} (sh : Shape T i h h') (hc : Closed h) (hb : Bounded h)
    {o : Owner} (ho : o ≠ .cfg i) {v : HVal} (ov : OwnedBy h o v) : readV (h'.next + 1) h' v = readV (h.next + 1) h v := by
  rw [sh.read hc ho _ v ov]
  exact read_fuel_irrelevant hb ov (by have := sh.next_le; omega) (by omega)

theorem compileFields_fresh (fs : List (String × FieldSpec)) (h : Heap) :
    Fresh .schema h (compileFields fs h).2 ∧
    ∀ p ∈ leafDefaults (compileFields fs h).1, NewBelow h.next (compileFields fs h).2.next p.2 := by
  induction fs generalizing h with
  | nil => exact ⟨Fresh.refl _ h, fun _ hp => nomatch hp⟩
  | cons p fs ih =>
    obtain ⟨name, spec⟩ := p
    cases spec with
    | leaf d t =>
      have i1 := allocT_fresh .schema t h
      have i2 := ih (allocT .schema t h).2
      simp only [compileFields, leafDefaults, List.mem_cons, forall_eq_or_imp]
      refine ⟨i1.1.trans i2.1, i1.2.val.mono (Nat.le_refl _) i2.1.next_le, ?_⟩
      intro p hp
      exact (i2.2 p hp).mono i1.1.next_le (Nat.le_refl _)
    | sub s => exact ih h
    | cfgList s => exact ih h

theorem compile_fresh (sps : List SchemaSpec) (h : Heap) :
    Fresh .schema h (compile sps h).2 ∧
    ∀ sd ∈ (compile sps h).1, ∀ p ∈ leafDefaults sd.fields, NewBelow h.next (compile sps h).2.next p.2 := by
  induction sps generalizing h with
  | nil => exact ⟨Fresh.refl _ h, fun _ hsd => nomatch hsd⟩
  | cons sp sps ih =>
    have i1 := compileFields_fresh sp.fields h
    have i2 := ih (compileFields sp.fields h).2
    simp only [compile, List.mem_cons, forall_eq_or_imp]
    refine ⟨i1.1.trans i2.1, ?_, ?_⟩
    · intro p hp
      exact (i1.2 p hp).mono (Nat.le_refl _) i2.1.next_le
    · intro sd hsd p hp
      exact (i2.2 sd hsd p hp).mono i1.1.next_le (Nat.le_refl _)

theorem closed_empty : Closed ({} : Heap) := by
  intro a o c e; simp [Heap.get?] at e

theorem bounded_empty : Bounded ({} : Heap) := by
  intro a o c e; simp [Heap.get?] at e

theorem sep_init (specs : List SchemaSpec) : Sep (initS specs) (init specs) := by
  have f := compile_fresh specs {}
  refine ⟨f.1.closed closed_empty, ?_, ?_, ?_⟩
  · intro k r hk; simp [init] at hk
  · intro sd hsd p hp
    exact f.1.ownedBy_new (f.2 sd hsd p hp)
  · intro a c e b hb
    exact (f.1.ord a _ c (Nat.zero_le _) e _ hb).2

theorem bounded_init (specs : List SchemaSpec) : Bounded (init specs).heap :=
  (compile_fresh specs {}).1.bounded bounded_empty

theorem noShare_empty : NoShare ({} : Heap) :=
  ⟨fun a o c e => by simp [Heap.get?] at e, fun a1 o1 c1 a2 o2 c2 b e => by simp [Heap.get?] at e⟩

theorem inv_init (specs : List SchemaSpec) : Inv (initS specs) (init specs) :=
  ⟨sep_init specs, bounded_init specs, (compile_fresh specs {}).1.noShare closed_empty noShare_empty⟩

def fieldDeepB : FieldDecl → Bool
  | .leaf disc dv => disc == .deep || !dv.isRef
  | _ => true

/-- executable form of `AllDeep` (`allDeepB_iff`) -/
def allDeepB (S : Schemas) : Bool := S.all (fun sd => sd.fields.all (fun p => fieldDeepB p.2))

theorem fieldDeepB_iff (d : FieldDecl) :
    fieldDeepB d = true ↔ ∀ disc dv, d = .leaf disc dv → disc = .deep ∨ dv.isRef = false := by
  cases d <;> simp [fieldDeepB]

theorem allDeepB_iff {S : Schemas} : allDeepB S = true ↔ AllDeep S := by
  simp only [allDeepB, List.all_eq_true, fieldDeepB_iff, AllDeep]
  exact ⟨fun h sd hsd name disc dv hm => h sd hsd _ hm disc dv rfl,
    fun h sd hsd p hp disc dv e => h sd hsd p.1 disc dv (by rw [← e]; exact hp)⟩

theorem allDeep_of_check {S : Schemas} (h : allDeepB S = true) : AllDeep S := allDeepB_iff.mp h

theorem check_of_allDeep {S : Schemas} (h : AllDeep S) : allDeepB S = true := allDeepB_iff.mpr h

/-- what lets a declared default be stored as a copy that reads like it.  `copy_read_dep` itself needs `Closed` and a depth
    bound `Dep` only; `SchemaOrdered` is what gives that bound for a schema-owned value (`schema_dep`). -/
def CopyOK (h : Heap) : Prop := Closed h ∧ SchemaOrdered h

theorem CopyOK.fresh {o : Owner} {h h' : Heap} (ok : CopyOK h) (f : Fresh o h h') : CopyOK h' :=
  ⟨f.closed ok.1, f.ordered ok.2⟩

theorem read_alloc_new {o : Owner} {h g : Heap} {c : Cell} (p : Fresh o h g ∧ KidsOK h g c.kids) (hc : Closed h) (n : Nat) :
    readV (n + 1) (g.alloc o c).2 (.ref (g.alloc o c).1) = c.tree (readV n g) := by
  rw [Heap.alloc_fst, readV_ref (o := o) (c := c) (by rw [Heap.get?_alloc, if_pos rfl])]
  refine Cell.tree_congr (fun w hw => read_old (p.1.closed hc) (fun a q e => ?_) n w (p.2.nb w hw).lt)
  rw [Heap.get?_alloc, if_neg (Nat.ne_of_lt (Heap.get?_lt e)), e]

theorem Dep.lt {h : Heap} {v : HVal} {d : Nat} (hd : Dep h v d) : ∀ b, v = .ref b → b < h.next := by
  intro b hb; subst hb
  cases hd with
  | ref _ o c d e _ => exact Heap.get?_lt e

theorem threadL_read_dep {o : Owner} {f : HVal → Heap → HVal × Heap} (hf : ∀ v, Allocates o (f v)) (d : Nat)
    (hread : ∀ v h, Dep h v d → Closed h → ∀ n, readV n (f v h).2 (f v h).1 = readV n h v)
    (items : List HVal) (h : Heap) (hD : ∀ w ∈ items, Dep h w d) (hc : Closed h) (n : Nat) :
    (threadL f items h).1.map (fun w => readV n (threadL f items h).2 w) = items.map (fun w => readV n h w) := by
  induction items generalizing h with
  | nil => rfl
  | cons x vs ih =>
    have a1 := hf x h
    have hc1 := a1.1.closed hc
    have t2 := threadL_fresh hf vs (f x h).2
    simp only [threadL, List.map_cons, List.cons.injEq]
    constructor
    · rw [t2.1.read hc1 n _ a1.2.val.lt]
      exact hread x h (hD x List.mem_cons_self) hc n
    · rw [ih (f x h).2 (fun w hw => a1.1.dep (hD w (List.mem_cons_of_mem _ hw))) hc1]
      apply List.map_congr_left
      intro w hw
      exact a1.1.read hc n w (hD w (List.mem_cons_of_mem _ hw)).lt

theorem threadK_read_dep {o : Owner} {f : HVal → Heap → HVal × Heap} (hf : ∀ v, Allocates o (f v)) (d : Nat)
    (hread : ∀ v h, Dep h v d → Closed h → ∀ n, readV n (f v h).2 (f v h).1 = readV n h v)
    (kvs : Slots) (h : Heap) (hD : ∀ w ∈ kvs, Dep h w.2 d) (hc : Closed h) (n : Nat) :
    (threadK f kvs h).1.map (fun w => (w.1, readV n (threadK f kvs h).2 w.2)) = kvs.map (fun w => (w.1, readV n h w.2)) := by
  induction kvs generalizing h with
  | nil => rfl
  | cons p vs ih =>
    obtain ⟨k, x⟩ := p
    have a1 := hf x h
    have hc1 := a1.1.closed hc
    have t2 := threadK_fresh hf vs (f x h).2
    simp only [threadK, List.map_cons, List.cons.injEq]
    constructor
    · rw [t2.1.read hc1 n _ a1.2.val.lt]
      rw [hread x h (hD (k, x) List.mem_cons_self) hc n]
    · rw [ih (f x h).2 (fun w hw => a1.1.dep (hD w (List.mem_cons_of_mem _ hw))) hc1]
      apply List.map_congr_left
      intro w hw
      rw [a1.1.read hc n w.2 (hD w (List.mem_cons_of_mem _ hw)).lt]

theorem copy_read_dep (o : Owner) (fuel : Nat) (v : HVal) (h : Heap) (hd : Dep h v fuel) (hc : Closed h) (n : Nat) :
    readV n (copyV o fuel v h).2 (copyV o fuel v h).1 = readV n h v := by
  induction fuel generalizing v h n with
  | zero => cases hd <;> simp
  | succ fuel ih =>
    cases hd with
    | null | atom => simp
    | ref _ o' c _ e hk =>
      simp only [copyV, Heap.cell?_eq e]
      cases n with
      | zero => cases c <;> simp
      | succ m =>
        rw [readV_ref e]
        cases c with
        | list items =>
          exact (read_alloc_new (threadL_fresh (copyV_allocates o fuel) items h) hc m).trans
            (congrArg Tree.list (threadL_read_dep (copyV_allocates o fuel) fuel ih items h hk hc m))
        | dict kvs =>
          exact (read_alloc_new (threadK_fresh (copyV_allocates o fuel) kvs h) hc m).trans
            (congrArg Tree.dict (threadK_read_dep (copyV_allocates o fuel) fuel ih kvs h
              (fun w hw => hk w.2 (List.mem_map_of_mem hw)) hc m))
        | cfg k sl dy =>
          exact (read_alloc_new (c := .cfg k _ dy) (threadK_fresh (copyV_allocates o fuel) sl h) hc m).trans
            (congrArg Tree.dict (threadK_read_dep (copyV_allocates o fuel) fuel ih sl h
              (fun w hw => hk w.2 (List.mem_map_of_mem hw)) hc m))

theorem schema_dep {h : Heap} (ok : CopyOK h) {v : HVal} (ov : OwnedBy h .schema v) {fuel : Nat}
    (hlt : ∀ b, v = .ref b → b < fuel) : Dep h v fuel := by
  cases v with
  | null => exact .null _
  | atom s => exact .atom s _
  | ref a =>
    refine (dep_of_ordered (m := 0) (fun a => ∃ c, h.get? a = some (.schema, c)) ?_ a ov).mono (hlt a rfl)
    intro a ⟨c, e⟩
    exact ⟨_, c, e, fun b hb => ⟨ok.1 a _ c e _ hb, Nat.zero_le _, ok.2 a c e b hb⟩⟩

theorem mem_leafDefaults {name : String} {disc : Disc} {dv : HVal} {fs : List (String × FieldDecl)}
    (hm : (name, FieldDecl.leaf disc dv) ∈ fs) : (name, dv) ∈ leafDefaults fs := by
  induction fs with
  | nil => simp at hm
  | cons p fs ih =>
    obtain ⟨n', d⟩ := p
    rcases List.mem_cons.mp hm with hm | hm
    · simp at hm; obtain ⟨rfl, rfl⟩ := hm; simp
    · have := ih hm
      cases d <;> simp [this]

/-- the declared defaults of `fs` are schema-owned and read as `rd` says -/
def GoodF (rd : Nat → HVal → Tree) (h : Heap) (fs : List (String × FieldDecl)) : Prop :=
  ∀ name disc dv, (name, FieldDecl.leaf disc dv) ∈ fs → OwnedBy h .schema dv ∧ ∀ n, readV n h dv = rd n dv

/-- the hypotheses of `buildCfg_read` -/
def Good (S : Schemas) (rd : Nat → HVal → Tree) (h : Heap) : Prop :=
  CopyOK h ∧ ∀ sd ∈ S, GoodF rd h sd.fields

theorem GoodF.fresh {rd : Nat → HVal → Tree} {h h' : Heap} {fs : List (String × FieldDecl)} {o : Owner}
    (g : GoodF rd h fs) (hc : Closed h) (f : Fresh o h h') : GoodF rd h' fs := by
  intro name disc dv hm
  obtain ⟨ow, rdv⟩ := g name disc dv hm
  exact ⟨f.ownedBy ow, fun n => by rw [f.read hc n dv ow.lt]; exact rdv n⟩

theorem Good.fresh {S : Schemas} {rd : Nat → HVal → Tree} {h h' : Heap} {o : Owner}
    (g : Good S rd h) (f : Fresh o h h') : Good S rd h' :=
  ⟨g.1.fresh f, fun sd hsd => (g.2 sd hsd).fresh g.1.1 f⟩

theorem GoodF.tail {rd : Nat → HVal → Tree} {h : Heap} {p : String × FieldDecl} {fs : List (String × FieldDecl)}
    (g : GoodF rd h (p :: fs)) : GoodF rd h fs :=
  fun name disc dv hm => g name disc dv (List.mem_cons_of_mem _ hm)

theorem readV_nonref {v : HVal} (hv : v.isRef = false) (n m : Nat) (h h' : Heap) : readV n h v = readV m h' v := by
  cases v <;> simp [HVal.isRef] at *

theorem storeDefault_read (o : Owner) (d : Disc) (dv : HVal) (hd : d = .deep ∨ dv.isRef = false) (h : Heap)
    (ok : CopyOK h) (ow : OwnedBy h .schema dv) (n : Nat) :
    readV n (storeDefault o d dv h).2 (storeDefault o d dv h).1 = readV n h dv := by
  rw [storeDefault_eq_copy hd]
  exact copy_read_dep o h.next dv h (schema_dep ok ow ow.lt) ok.1 n

theorem buildFields_read {S : Schemas} {o : Owner} {rec : Nat → Heap → HVal × Heap} {rd : Nat → HVal → Tree}
    {subT : Nat → Nat → Tree} (hr : ∀ s, Allocates o (rec s))
    (hrec : ∀ s h, Good S rd h → ∀ n, readV n (rec s h).2 (rec s h).1 = subT n s)
    (fs : List (String × FieldDecl)) (h : Heap) (hd : FieldsDeep fs) (g : Good S rd h) (gf : GoodF rd h fs) (n : Nat) :
    (buildFields rec o fs h).1.map (fun p => (p.1, readV n (buildFields rec o fs h).2 p.2)) =
      pristineFields (rd n) (subT n) (emptyListAt n) fs := by
  induction fs generalizing h with
  | nil => simp
  | cons p fs ih =>
    obtain ⟨name, d⟩ := p
    have hd1 : ∀ disc dv, d = .leaf disc dv → disc = .deep ∨ dv.isRef = false :=
      fun disc dv e => hd name disc dv (by rw [e]; exact List.mem_cons_self)
    have a1 := fieldVal_allocates hr d hd1 h
    have g1 := g.fresh a1.1
    have t2 := buildFields_fresh hr fs (fieldVal rec o d h).2 hd.tail
    have ih := ih (fieldVal rec o d h).2 hd.tail g1 (gf.tail.fresh g.1.1 a1.1)
    rw [buildFields_cons]
    simp only [List.map_cons]
    rw [ih, t2.1.read g1.1.1 n _ a1.2.val.lt]
    cases d with
    | leaf disc dv =>
      obtain ⟨ow, rdv⟩ := gf name disc dv List.mem_cons_self
      simp only [fieldVal, pristineFields]
      rw [storeDefault_read o disc dv (hd1 disc dv rfl) h g.1 ow n, rdv n]
    | sub s =>
      simp only [fieldVal, pristineFields]
      rw [hrec s h g n]
    | cfgList s =>
      simp only [fieldVal, pristineFields]
      cases n with
      | zero => simp [emptyListAt]
      | succ m =>
        rw [read_alloc_new (c := .list []) (forest_nil o h) g.1.1 m]
        rfl

theorem buildCfg_read {S : Schemas} (hS : AllDeep S) (o : Owner) (rd : Nat → HVal → Tree)
    (bf k : Nat) (h : Heap) (g : Good S rd h) (n : Nat) :
    readV n (buildCfg S o bf k h).2 (buildCfg S o bf k h).1 = pristine S rd bf n k := by
  induction bf generalizing k h n with
  | zero => simp
  | succ bf ih =>
    simp only [buildCfg]
    cases e : S[k]? with
    | none => cases n <;> simp [e]
    | some sd =>
      cases n with
      | zero => simp
      | succ m =>
        have hr := buildCfg_allocates hS o bf
        have t := buildFields_fresh (rec := buildCfg S o bf) hr sd.fields h (hS.fields e)
        have rdf := buildFields_read (S := S) (rd := rd) (subT := pristine S rd bf) hr
          ih sd.fields h (hS.fields e) g (g.2 sd (List.mem_of_getElem? e)) m
        rw [read_alloc_new (c := .cfg k _ []) t g.1.1 m]
        simp only [Cell.tree, pristine, e, rdf]

mutual
  theorem Tree.beq_refl : ∀ (t : Tree), Tree.beq t t = true
    | .null => rfl
    | .atom a => beq_self_eq_true a
    | .list ts => Tree.beqList_refl ts
    | .dict kvs => Tree.beqKvs_refl kvs
  theorem Tree.beqList_refl : ∀ (ts : List Tree), Tree.beqList ts ts = true
    | [] => rfl
    | t :: ts => by
      show (Tree.beq t t && Tree.beqList ts ts) = true
      rw [Tree.beq_refl t, Tree.beqList_refl ts]; rfl
  theorem Tree.beqKvs_refl : ∀ (ts : List (String × Tree)), Tree.beqKvs ts ts = true
    | [] => rfl
    | (k, t) :: ts => by
      show (k == k && Tree.beq t t && Tree.beqKvs ts ts) = true
      rw [beq_self_eq_true, Tree.beq_refl t, Tree.beqKvs_refl ts]; rfl
end

theorem Tree.ne_of_beq_false {a b : Tree} (h : Tree.beq a b = false) : a ≠ b := by
  intro e; subst e; rw [Tree.beq_refl] at h; cases h

mutual
  theorem Tree.eq_of_beq : ∀ {a b : Tree}, Tree.beq a b = true → a = b
    | .null, .null, _ => rfl
    | .atom _, .atom _, h => congrArg Tree.atom (LawfulBEq.eq_of_beq h)
    | .list _, .list _, h => congrArg Tree.list (Tree.eq_of_beqList h)
    | .dict _, .dict _, h => congrArg Tree.dict (Tree.eq_of_beqKvs h)
    | .null, .atom _, h | .null, .list _, h | .null, .dict _, h | .atom _, .null, h | .atom _, .list _, h | .atom _, .dict _, h
    | .list _, .null, h | .list _, .atom _, h | .list _, .dict _, h | .dict _, .null, h | .dict _, .atom _, h | .dict _, .list _, h =>
      nomatch h
  theorem Tree.eq_of_beqList : ∀ {a b : List Tree}, Tree.beqList a b = true → a = b
    | [], [], _ => rfl
    | x :: a, y :: b, h => by
      have h' : Tree.beq x y = true ∧ Tree.beqList a b = true := Bool.and_eq_true_iff.mp h
      rw [Tree.eq_of_beq h'.1, Tree.eq_of_beqList h'.2]
    | [], _ :: _, h | _ :: _, [], h => nomatch h
  theorem Tree.eq_of_beqKvs : ∀ {a b : List (String × Tree)}, Tree.beqKvs a b = true → a = b
    | [], [], _ => rfl
    | (k, x) :: a, (k', y) :: b, h => by
      have h' : ((k == k') = true ∧ Tree.beq x y = true) ∧ Tree.beqKvs a b = true :=
        (Bool.and_eq_true_iff.mp h).imp Bool.and_eq_true_iff.mp id
      rw [LawfulBEq.eq_of_beq h'.1.1, Tree.eq_of_beq h'.1.2, Tree.eq_of_beqKvs h'.2]
    | [], _ :: _, h | _ :: _, [], h => nomatch h
end

/-- `Tree` is a nested inductive type, for which `DecidableEq` cannot be derived; the model's `Tree.beq` decides equality.
    The evaluated examples compare observations by `decide +kernel`, which evaluates once, in the kernel. -/
instance : DecidableEq Tree := fun a b =>
  if h : Tree.beq a b = true then isTrue (Tree.eq_of_beq h) else isFalse (fun e => h (e ▸ Tree.beq_refl a))

end Cinco.Heap
