import Cinco.Proofs.Cfg
/-
  Where key-file names come from after a build or a load (finding F19 in general).

  The library lets an application assign a key file to any (sub-)configuration; a config type may declare one
  (`SField.ctype s' kf`).  `load_tree` / assignment of a map REPLACES sub-configuration objects by newly built ones, so an
  assigned name is lost while a declared one comes back.  This file proves it in general:

  – a built configuration carries exactly the key file it was built with;
  – the OWNER's own key file never changes through assignment and loading, whatever the outcome;
  – every nested configuration has the key file its schema position prescribes (`SchemaKeys`): `build` establishes it,
    assignment of plain values and `load_tree` keep it; a successful load leaves a configuration built from the schema
    and then loaded (`Rebuilt`, Proofs/Cfg.lean) under every sub-configuration key the map mentions (`loadTree_rebuilds`).
  How `SchemaKeys` gets broken (`setKeyAt_breaks`), and what it gives for key-file resolution — when no config type declares a
  key file the whole tree uses the root's — is in Props/C03b.lean, which imports Config/Keys.lean.
-/
namespace Cinco.Config.KeyfileLoad
open Cinco Cinco.Field Cinco.Config

@[simp] theorem Cfg.keyfile_set (c : Cfg) (k : String) (s : Slot) : (c.set k s).keyfile = c.keyfile := rfl
@[simp] theorem Cfg.keyfile_setDefault (c : Cfg) (k : String) (s : Slot) : (c.setDefault k s).keyfile = c.keyfile := rfl
@[simp] theorem Cfg.keyfile_setUser (c : Cfg) (k : String) (s : Slot) : (c.setUser k s).keyfile = c.keyfile := rfl
@[simp] theorem Cfg.keyfile_withDyn (c : Cfg) (l : List String) : (c.withDyn l).keyfile = c.keyfile := rfl
@[simp] theorem Cfg.keyfile_withLinked (c : Cfg) (l : Bool) : (c.withLinked l).keyfile = c.keyfile := rfl
@[simp] theorem Cfg.keyfile_withDefaults (c : Cfg) (l : List String) : (c.withDefaults l).keyfile = c.keyfile := rfl
@[simp] theorem Cfg.keyfile_withKeyfile (c : Cfg) (l : Option String) : (c.withKeyfile l).keyfile = l := rfl

theorem buildFields_keyfile (W : World) (path : String) (fs : List (String × SField)) (c : Cfg) (n : Nat) (c' : Cfg) (n' : Nat)
    (h : buildFields W path fs c n = .ok (c', n')) : c'.keyfile = c.keyfile := by
  induction fs generalizing c n with
  | nil => simp only [buildFields] at h; cases h; rfl
  | cons p rest ih =>
    obtain ⟨o, n1, _, hrest⟩ := buildFields_cons_ok h
    rw [ih _ _ hrest]
    cases o <;> rfl

/-- **A newly built configuration carries exactly the key file it was built with** (`none` for a `.sub` field and for
    list items, the declared one for a `.ctype` field). -/
theorem build_keyfile (W : World) (path : String) (linked : Bool) (kf : Option String) (s : Schema) (n : Nat)
    (c : Cfg) (n' : Nat) (h : build W path linked kf s n = .ok (c, n')) : c.keyfile = kf := by
  rw [build_eq] at h
  exact buildFields_keyfile W path s.fields _ _ c n' h

theorem setValue_keyfile (W : World) (fuel : Nat) (s : Schema) (path : String) (c : Cfg) (k : String) (a : Arg) (n : Nat) :
    (setValue W fuel s path c k a n).cfg.keyfile = c.keyfile :=
  (setValue_assigned W fuel s path c k a n).keyfile

/-- `setSub`, the sub-configuration branch of `_set_value`, never changes the key file of the OWNER either, whether the argument is a
    configuration object, a map (which builds a new sub-configuration) or anything else -/
theorem setSub_keyfile (W : World) (fuel : Nat) (s' : Schema) (kf : Option String) (path : String) (c : Cfg) (k : String)
    (a : Arg) (n : Nat) : (setSub W fuel s' kf path c k a n).cfg.keyfile = c.keyfile :=
  (setSub_assigned W fuel s' kf path c k a n).keyfile

theorem setSub_get_other (W : World) (fuel : Nat) (s' : Schema) (kf : Option String) (path : String) (c : Cfg) (k : String)
    (a : Arg) (n : Nat) {k' : String} (hk : k' ≠ k) : (setSub W fuel s' kf path c k a n).cfg.get k' = c.get k' :=
  (setSub_assigned W fuel s' kf path c k a n).get_other hk

/-- **`load_tree` never changes the key file of the configuration it is called on**, whether it returns or raises
    (at any entry). -/
theorem loadTree_keyfile (W : World) (fuel : Nat) (s : Schema) (path : String) (t : List (Val × Val)) (c : Cfg) (dv : Bool)
    (n : Nat) : (loadTree W fuel s path c t dv n).cfg.keyfile = c.keyfile :=
  loadTree_induction (P := fun x => x.keyfile = c.keyfile) W fuel s path t
    (fun c' k _ n _ h => (setValue_keyfile W fuel s path c' k _ n).trans h) c dv n rfl

/-- every configuration nested in `c` (through `.sub` / `.ctype` fields and as an item of a `.cfgList`, to depth `d`) carries
    the key file its schema position prescribes — `none` under a `.sub` field and for list items, the declared one under a
    `.ctype s' kf` field: the schema decides, not the history.  Nothing is said of `c`'s own key file: that one is the
    caller's (`loadTree_keyfile`, `setValue_keyfile`). -/
def SchemaKeys : Nat → Schema → Cfg → Prop
  | 0, _, _ => True
  | d + 1, s, c => ∀ k f, s.get k = some f →
      match f, c.get k with
      | .sub s', some (.node sub) => sub.keyfile = none ∧ SchemaKeys d s' sub
      | .ctype s' kf, some (.node sub) => sub.keyfile = kf ∧ SchemaKeys d s' sub
      | .cfgList s' _ _ _, some (.nodes cs) => ∀ x ∈ cs, x.keyfile = none ∧ SchemaKeys d s' x
      | _, _ => True

/-- the clause of `SchemaKeys` for one declared field and the slot stored under its key -/
def SlotKeys (d : Nat) : SField → Option Slot → Prop
  | .sub s', some (.node sub) => sub.keyfile = none ∧ SchemaKeys d s' sub
  | .ctype s' kf, some (.node sub) => sub.keyfile = kf ∧ SchemaKeys d s' sub
  | .cfgList s' _ _ _, some (.nodes cs) => ∀ x ∈ cs, x.keyfile = none ∧ SchemaKeys d s' x
  | _, _ => True

theorem schemaKeys_succ_iff {d : Nat} {s : Schema} {c : Cfg} :
    SchemaKeys (d + 1) s c ↔ ∀ k f, s.get k = some f → SlotKeys d f (c.get k) := Iff.rfl

theorem schemaKeys_zero (s : Schema) (c : Cfg) : SchemaKeys 0 s c := by
  unfold SchemaKeys; trivial

theorem slotKeys_val (d : Nat) (f : SField) (v : Val) : SlotKeys d f (some (.val v)) := by
  cases f <;> trivial

theorem slotKeys_none (d : Nat) (f : SField) : SlotKeys d f none := by
  cases f <;> trivial

theorem schemaKeys_congr_get {s : Schema} {c c' : Cfg} (h : ∀ k, c'.get k = c.get k) :
    ∀ {d : Nat}, SchemaKeys d s c → SchemaKeys d s c' := by
  intro d hi
  cases d with
  | zero => exact schemaKeys_zero s c'
  | succ d =>
    rw [schemaKeys_succ_iff] at hi ⊢
    intro k f hf
    rw [h k]
    exact hi k f hf

/-- assigning a key file to the configuration itself does not disturb `SchemaKeys` of that configuration
    (it breaks the clause of the PARENT, see `setKeyAt_breaks`) -/
theorem schemaKeys_withKeyfile {d : Nat} {s : Schema} {c : Cfg} (l : Option String) (h : SchemaKeys d s c) :
    SchemaKeys d s (c.withKeyfile l) := schemaKeys_congr_get (c := c) (c' := c.withKeyfile l) (fun _ => rfl) h

theorem schemaKeys_mono : ∀ {d : Nat} {s : Schema} {c : Cfg}, SchemaKeys (d + 1) s c → SchemaKeys d s c := by
  intro d
  induction d with
  | zero => intro s c _; exact schemaKeys_zero s c
  | succ d ih =>
    intro s c h
    rw [schemaKeys_succ_iff] at h ⊢
    intro k f hf
    have := h k f hf
    generalize c.get k = sl at this ⊢
    unfold SlotKeys at this ⊢
    split
    · exact ⟨this.1, ih this.2⟩
    · exact ⟨this.1, ih this.2⟩
    · exact fun x hx => ⟨(this x hx).1, ih (this x hx).2⟩
    · trivial

theorem slotKeys_node {d : Nat} {f : SField} {s' : Schema} {kf : Option String} {x : Cfg} (hs : subSchema f = some (s', kf)) :
    SlotKeys d f (some (.node x)) ↔ x.keyfile = kf ∧ SchemaKeys d s' x := by
  cases f <;> cases hs <;> exact Iff.rfl

/-- **`Config(schema)` establishes `SchemaKeys`, to every depth**: in a newly built configuration every nested
    configuration has the key file its schema position prescribes.  `hnd` (pairwise distinct keys at every level) is needed
    for the reason given at `inv_build`: with a duplicate key the slot holds the LAST declaration's default while
    `Schema.get` reads the FIRST (e.g. `[("a", .ctype s₁ (some "K")), ("a", .sub s₂)]` leaves a node with key file `none`
    under `a`).  See `build_schemaKeys_needs_nodup`. -/
theorem build_schemaKeys (W : World) (d : Nat) (path : String) (linked : Bool) (kf : Option String) (s : Schema) (n : Nat)
    (c : Cfg) (n' : Nat) (hnd : s.keysNodup = true) (h : build W path linked kf s n = .ok (c, n')) : SchemaKeys d s c := by
  induction d generalizing path linked kf s n c n' with
  | zero => exact schemaKeys_zero s c
  | succ d ih =>
    rw [schemaKeys_succ_iff]
    intro k f hf
    have hst := build_get (every_iff.mp hnd).1 h hf
    generalize c.get k = o at hst ⊢
    cases hst with
    | leaf | unset => exact slotKeys_val d _ _
    | built f s' kf' n fresh n' hs hb =>
      -- a nested configuration is itself newly built, with the key file the field declares
      exact (slotKeys_node hs).mpr ⟨build_keyfile W _ _ _ _ _ _ _ hb, ih _ _ _ _ _ _ _ (keysNodup_subSchema hnd hf hs) hb⟩
    | empty => exact fun x hx => nomatch hx
    | nothing f _ => exact slotKeys_none d f

/-- an argument of an assignment respects `SchemaKeys`: plain values (all that `load_tree` passes) always do; a
    configuration OBJECT must carry the key file the slot prescribes — exactly what fails after
    `sub._key_filename = …; cfg.sub = sub` -/
def ArgKeys (d : Nat) (s : Schema) (k : String) : Arg → Prop
  | .val _ => True
  | .cfg sub _ => ∀ f, s.get k = some f → SlotKeys d f (some (.node sub))

/-- the schema position of a sub-configuration slot, with the key file `_set_value` hands to `setSub` for it -/
def SubAt (s : Schema) (k : String) (s' : Schema) (kf : Option String) : Prop :=
  (s.get k = some (.sub s') ∧ kf = none) ∨ s.get k = some (.ctype s' kf)

theorem SubAt.field {s s' : Schema} {k : String} {kf : Option String} (h : SubAt s k s' kf) :
    ∃ f, s.get k = some f ∧ subSchema f = some (s', kf) := by
  rcases h with ⟨h, rfl⟩ | h <;> exact ⟨_, h, rfl⟩

theorem _root_.Cinco.Config.Rebuilt.keyfile_eq {W : World} {fuel : Nat} {s' : Schema} {kf : Option String} {x : Cfg}
    (h : Rebuilt W fuel s' kf x) : x.keyfile = kf :=
  h.induction (fun p n fresh n1 hb => build_keyfile W p true kf s' n fresh n1 hb)
    fun p c k _ n hc => (setValue_keyfile W fuel s' p c k _ n).trans hc

/-- **`_set_value` keeps `SchemaKeys`** for plain values and for configuration objects that carry the prescribed key file
    (`ArgKeys`), whether it returns or raises: the clause of the field allows the slots `_set_value` can store
    (`setValue_slots`) — a configuration made from a map was built with the key files of the schema (`build_schemaKeys`) and
    then loaded by `_set_value`s with less fuel. -/
theorem setValue_schemaKeys (W : World) (d fuel : Nat) (s : Schema) (path : String) (c : Cfg) (k : String) (a : Arg) (n : Nat)
    (hnd : s.keysNodup = true) (ha : ArgKeys d s k a) (hi : SchemaKeys (d + 1) s c) :
    SchemaKeys (d + 1) s (setValue W fuel s path c k a n).cfg := by
  induction fuel using Nat.strongRecOn generalizing d s path c k a n with
  | ind fuel ih =>
    refine setValue_slots (R := SlotKeys d) W fuel s path c k a n hi fun f sl hf hsl => ?_
    have hmade : ∀ {fuel' s' kf x}, fuel' < fuel → s'.keysNodup = true → Rebuilt W fuel' s' kf x →
        x.keyfile = kf ∧ SchemaKeys d s' x := by
      intro fuel' s' kf x hlt hnd' hx
      refine ⟨hx.keyfile_eq, ?_⟩
      cases d with
      | zero => exact schemaKeys_zero s' x
      | succ d =>
        exact hx.induction (fun p n fresh n1 hb => build_schemaKeys W _ p true kf s' n fresh n1 hnd' hb)
          fun p c k v n hc => ih fuel' hlt d s' p c k (.val v) n hnd' trivial hc
    cases hsl with
    | leaf | unset => exact slotKeys_val d _ _
    | items fuel' s' it req m cs hcs =>
      exact fun x hx => hmade (Nat.lt_succ_self _) (keysNodup_cfgList hnd hf) (hcs x hx)
    | sub fuel' _ s' kf sl hf' hsub =>
      cases hsub with
      | given sub =>
        have hsub := (slotKeys_node hf').mp (ha f hf)
        exact (slotKeys_node hf').mpr ⟨hsub.1, schemaKeys_congr_get (fun _ => Cfg.get_withLinked ..) hsub.2⟩
      | made kvs x hx => exact (slotKeys_node hf').mpr (hmade (Nat.lt_succ_self _) (keysNodup_subSchema hnd hf hf') hx)

/-- **`load_tree` keeps `SchemaKeys`**, whether it returns or raises (at any entry). -/
theorem loadTree_schemaKeys (W : World) (d fuel : Nat) (s : Schema) (path : String) (c : Cfg) (t : List (Val × Val))
    (dv : Bool) (n : Nat) (hnd : s.keysNodup = true) (hi : SchemaKeys d s c) :
    SchemaKeys d s (loadTree W fuel s path c t dv n).cfg := by
  cases d with
  | zero => exact schemaKeys_zero s _
  | succ d =>
    exact loadTree_induction W fuel s path t
      (fun c k v n _ hc => setValue_schemaKeys W d fuel s path c k (.val v) n hnd trivial hc) c dv n hi

theorem _root_.Cinco.Config.Rebuilt.schemaKeys {W : World} {fuel : Nat} {s' : Schema} {kf : Option String} {x : Cfg}
    (h : Rebuilt W fuel s' kf x) (d : Nat) (hnd : s'.keysNodup = true) : SchemaKeys d s' x := by
  obtain ⟨p, n, fresh, n1, kvs, hb, rfl⟩ := h
  exact loadTree_schemaKeys W d fuel s' p fresh kvs true n1 hnd (build_schemaKeys W d p true kf s' n fresh n1 hnd hb)

theorem build_load_schemaKeys (W : World) (d fuel : Nat) (s : Schema) (path : String) (linked : Bool) (kf : Option String)
    (n0 n1 : Nat) (c0 : Cfg) (t : List (Val × Val)) (dv : Bool) (hnd : s.keysNodup = true)
    (hb : build W path linked kf s n0 = .ok (c0, n1)) :
    (loadTree W fuel s path c0 t dv n1).cfg.keyfile = kf ∧ SchemaKeys d s (loadTree W fuel s path c0 t dv n1).cfg :=
  ⟨by rw [loadTree_keyfile, build_keyfile W _ _ _ _ _ _ _ hb],
   loadTree_schemaKeys W d fuel s path c0 t dv n1 hnd (build_schemaKeys W d path linked kf s n0 c0 n1 hnd hb)⟩

/-- **dotted item assignment of a plain value keeps `SchemaKeys`**, whether it returns or raises: the configurations walked
    through are kept (with their key files); only the last step can rebuild one. -/
theorem setItem_schemaKeys (W : World) :
    ∀ (fuel d : Nat) (s : Schema) (path : String) (c : Cfg) (dotted : List Char) (v : Val) (n : Nat),
      s.keysNodup = true → SchemaKeys d s c → SchemaKeys d s (setItem W fuel s path c dotted (.val v) n).cfg := by
  intro fuel d s path c dotted v n hs hi
  -- the own key file is carried along: the parent's clause for a sub-configuration written back speaks of it
  refine (setItem_induction W (.val v) n
    (P := fun s c _ o => o.cfg.keyfile = c.keyfile ∧ ∀ d, s.keysNodup = true → SchemaKeys d s c → SchemaKeys d s o.cfg)
    ?_ ?_ ?_ fuel s path c dotted).2 d hs hi
  · intro fuel s path c k
    refine ⟨setValue_keyfile W fuel s path c k _ n, fun d hs hi => ?_⟩
    cases d with
    | zero => exact schemaKeys_zero s _
    | succ d => exact setValue_schemaKeys W d fuel s path c k _ n hs trivial hi
  · exact fun _ _ _ _ => ⟨rfl, fun _ _ hi => hi⟩
  · intro s c key f s' kf sub _ o hk hsub hget ih
    refine ⟨rfl, fun d hs hi => ?_⟩
    cases d with
    | zero => exact schemaKeys_zero s _
    | succ d =>
      have hslot : SlotKeys d f (c.get key) := hi key f hk
      rw [hget, slotKeys_node hsub] at hslot
      exact slots_of_write (R := SlotKeys d) (Cfg.get_set c key · _) hi fun f' hf' => by
        cases hk.symm.trans hf'
        exact (slotKeys_node hsub).mpr ⟨ih.1.trans hslot.1, ih.2 d (keysNodup_subSchema hs hk hsub) hslot.2⟩

theorem setSub_val_ok {W : World} {fuel : Nat} {s' : Schema} {kf : Option String} {path : String} {c : Cfg} {k : String} {v : Val}
    {n : Nat} (h : (setSub W fuel s' kf path c k (.val v) n).err = none) :
    (∃ kvs, v = .dict kvs) ∧
    ∃ x, (setSub W fuel s' kf path c k (.val v) n).cfg.get k = some (.node x) ∧ Rebuilt W fuel s' kf x := by
  rcases setSub_cases W fuel s' kf path c k (.val v) n with ⟨e, n', h'⟩ | ⟨sl, n', hsl, h'⟩ <;> rw [h'] at h ⊢
  · cases h
  · cases hsl with
    | made kvs x hx => exact ⟨⟨kvs, rfl⟩, x, Cfg.get_setUser_same c k _, hx⟩

/-- **F19, the rebuilt node — key file only, no hypothesis on the schema**: after a successful assignment of a map to a
    sub-configuration slot the node stored there has key file `kf` (`none` for `.sub`, the declared one for `.ctype`),
    whatever was stored there before. -/
theorem rebuilt_keyfile (W : World) (fuel : Nat) (s' : Schema) (kf : Option String) (path : String)
    (c : Cfg) (k : String) (kvs : List (Val × Val)) (n : Nat)
    (h : (setSub W fuel s' kf path c k (.val (.dict kvs)) n).err = none) :
    ∃ node, (setSub W fuel s' kf path c k (.val (.dict kvs)) n).cfg.get k = some (.node node) ∧ node.keyfile = kf := by
  obtain ⟨x, hg, hr⟩ := (setSub_val_ok h).2
  exact ⟨x, hg, hr.keyfile_eq⟩

/-- after a successful assignment of a map to a sub-configuration slot whose schema has pairwise distinct keys, the node
    stored there has key file `kf` and everything below it the key file of its schema position, to every depth -/
theorem rebuilt_has_schema_keys (W : World) (d fuel : Nat) (s' : Schema) (kf : Option String) (path : String)
    (c : Cfg) (k : String) (kvs : List (Val × Val)) (n : Nat) (hnd : s'.keysNodup = true)
    (h : (setSub W fuel s' kf path c k (.val (.dict kvs)) n).err = none) :
    ∃ node, (setSub W fuel s' kf path c k (.val (.dict kvs)) n).cfg.get k = some (.node node) ∧
      node.keyfile = kf ∧ SchemaKeys d s' node := by
  obtain ⟨x, hg, hr⟩ := (setSub_val_ok h).2
  exact ⟨x, hg, hr.keyfile_eq, hr.schemaKeys d hnd⟩

/-- by contrast, assigning a configuration OBJECT (of the right schema) stores that object: its key file — assigned or not —
    is kept.  (This is how an application can re-attach a key file after a load.) -/
theorem assigned_object_keeps_keyfile (W : World) (fuel : Nat) (s' : Schema) (kf : Option String) (path : String)
    (c : Cfg) (k : String) (sub : Cfg) (n : Nat) :
    (setSub W fuel s' kf path c k (.cfg sub true) n).err = none ∧
    (setSub W fuel s' kf path c k (.cfg sub true) n).cfg.get k = some (.node (sub.withLinked true)) ∧
    (sub.withLinked true).keyfile = sub.keyfile := by
  unfold setSub
  exact ⟨rfl, Cfg.get_setUser_same _ _ _, rfl⟩

theorem decodeEntry_subAt {W : World} {s s' : Schema} {path : String} {c : Cfg} {k : String} {kf : Option String}
    (hk : SubAt s k s' kf) (value : Val) : decodeEntry W s path c k value = some (.ok (.val value)) := by
  obtain ⟨f, hf, hs⟩ := hk.field
  unfold decodeEntry
  cases f <;> cases hs <;> simp only [getField_some c hf]

theorem setValue_subAt {W : World} {s s' : Schema} {kf : Option String} {k : String} (hk : SubAt s k s' kf)
    (fuel : Nat) (path : String) (c : Cfg) (v : Val) (n : Nat) (h : (setValue W fuel s path c k (.val v) n).err = none) :
    (∃ kvs, v = .dict kvs) ∧
    ∃ fuel' x, (setValue W fuel s path c k (.val v) n).cfg.get k = some (.node x) ∧ Rebuilt W fuel' s' kf x := by
  obtain ⟨f, hf, hs⟩ := hk.field
  cases fuel with
  | zero => unfold setValue at h; cases h
  | succ fuel =>
    rw [setValue_sub W fuel s path c k _ n hf hs] at h ⊢
    exact ⟨(setSub_val_ok h).1, fuel, (setSub_val_ok h).2⟩

/-- **A load that returns has gone through every entry**: each key is a string, and its value was skipped (an
    environment-bound field) or decoded and then accepted by `_set_value`.  `Q c t` is read "`t` is still to be loaded
    into `c`". -/
theorem loadTree_ok_induction {Q : Cfg → List (Val × Val) → Prop} (W : World) (fuel : Nat) (s : Schema) (path : String)
    (dv : Bool)
    (skip : ∀ c ks v rest, decodeEntry W s path c (String.ofList ks) v = none → Q c ((.str ks, v) :: rest) → Q c rest)
    (step : ∀ c ks v rest a n, decodeEntry W s path c (String.ofList ks) v = some (.ok a) →
      (setValue W fuel s path c (String.ofList ks) a n).err = none → Q c ((.str ks, v) :: rest) →
      Q (setValue W fuel s path c (String.ofList ks) a n).cfg rest) :
    ∀ (t : List (Val × Val)) (c : Cfg) (n : Nat), (loadTree W fuel s path c t dv n).err = none → Q c t →
      Q (loadTree W fuel s path c t dv n).cfg [] := by
  intro t
  induction t with
  | nil => intro c n _ h0; rw [loadTree_nil]; split <;> exact h0
  | cons e rest ih =>
    obtain ⟨key, value⟩ := e
    intro c n hok h0
    rcases Val.str_or_not key with ⟨ks, rfl⟩ | hne
    · rw [loadTree_cons_str] at hok ⊢
      cases hdec : decodeEntry W s path c (String.ofList ks) value with
      | none =>
        rw [hdec] at hok
        exact ih c n hok (skip c ks value rest hdec h0)
      | some r =>
        rw [hdec] at hok
        cases r with
        | error e => cases hok
        | ok a =>
          cases he : (setValue W fuel s path c (String.ofList ks) a n).err with
          | some e => simp [he] at hok
          | none =>
            simp only [he] at hok ⊢
            exact ih _ _ hok (step c ks value rest a n hdec he h0)
    · rw [loadTree_cons_nonstr W fuel s path c key value rest dv n hne] at hok
      cases hok

/-- **F19 in general**: if a load succeeds, then for every key `k` of the loaded map that names a `.sub s'` field
    (`kf = none`) or a `.ctype s' kf` field, the slot `k` afterwards holds a configuration made from a map (built with `kf`
    from `s'`, then loaded) — whatever `c` held under `k` before. -/
theorem loadTree_rebuilds (W : World) (fuel : Nat) (s : Schema) (path : String) (c : Cfg) (t : List (Val × Val))
    (dv : Bool) (n : Nat) (k : String) (s' : Schema) (kf : Option String) (hk : SubAt s k s' kf) (hmem : k ∈ treeKeys t)
    (hok : (loadTree W fuel s path c t dv n).err = none) :
    ∃ fuel' node, (loadTree W fuel s path c t dv n).cfg.get k = some (.node node) ∧ Rebuilt W fuel' s' kf node := by
  -- the invariant: `k` is still to come in `t`, or the slot `k` already holds a configuration made from a map
  have h := loadTree_ok_induction W fuel s path dv
    (Q := fun c t => k ∈ treeKeys t ∨ ∃ fuel' x, c.get k = some (.node x) ∧ Rebuilt W fuel' s' kf x) ?_ ?_ t c n hok (Or.inl hmem)
  · rcases h with h | h
    · cases h
    · exact h
  · intro c ks v rest hdec hq
    rw [treeKeys_cons_str, List.mem_cons] at hq
    rcases hq with (rfl | h) | h
    · rw [decodeEntry_subAt hk] at hdec; cases hdec
    · exact Or.inl h
    · exact Or.inr h
  · intro c ks v rest a n hdec he hq
    rw [treeKeys_cons_str, List.mem_cons] at hq
    by_cases hkk : k = String.ofList ks
    · subst hkk
      rw [decodeEntry_subAt hk] at hdec; cases hdec
      exact Or.inr (setValue_subAt hk fuel path c v n he).2
    · rw [(setValue_assigned W fuel s path c _ a n).get_other hkk]
      rcases hq with (h | h) | h
      · exact absurd h hkk
      · exact Or.inl h
      · exact Or.inr h

/-- after a successful load, under a key `k` of the loaded map that names a `.sub s'` field (`kf = none`) or a `.ctype s' kf`
    field, there is a configuration whose key file is `kf` — whatever key file had been assigned to the sub-configuration
    that was there; no hypothesis on the schema.  (Such a load has a map under `k`: `loadTree_sub_value_is_map`.) -/
theorem loadTree_schema_keys_at (W : World) (fuel : Nat) (s : Schema) (path : String) (c : Cfg) (t : List (Val × Val))
    (dv : Bool) (n : Nat) (k : String) (s' : Schema) (kf : Option String) (hk : SubAt s k s' kf) (hmem : k ∈ treeKeys t)
    (hok : (loadTree W fuel s path c t dv n).err = none) :
    ∃ node, (loadTree W fuel s path c t dv n).cfg.get k = some (.node node) ∧ node.keyfile = kf := by
  obtain ⟨_, x, hg, hr⟩ := loadTree_rebuilds W fuel s path c t dv n k s' kf hk hmem hok
  exact ⟨x, hg, hr.keyfile_eq⟩

/-- `loadTree_schema_keys_at` with the entry given as it stands in the tree: a key and a map -/
theorem loadTree_schema_keys_at_map (W : World) (fuel : Nat) (s : Schema) (path : String) (c : Cfg) (t : List (Val × Val))
    (dv : Bool) (n : Nat) (ks : List Char) (kvs : List (Val × Val)) (s' : Schema) (kf : Option String)
    (hk : SubAt s (String.ofList ks) s' kf) (hmem : (Val.str ks, Val.dict kvs) ∈ t)
    (hok : (loadTree W fuel s path c t dv n).err = none) :
    ∃ node, (loadTree W fuel s path c t dv n).cfg.get (String.ofList ks) = some (.node node) ∧ node.keyfile = kf :=
  loadTree_schema_keys_at W fuel s path c t dv n _ s' kf hk (mem_treeKeys.2 ⟨_, by rwa [String.toList_ofList]⟩) hok

/-- `loadTree_schema_keys_at` with, for pairwise distinct keys in `s'`, the key files of the schema positions in the whole
    rebuilt subtree -/
theorem loadTree_schema_keys_at_deep (W : World) (d fuel : Nat) (s : Schema) (path : String) (c : Cfg) (t : List (Val × Val))
    (dv : Bool) (n : Nat) (k : String) (s' : Schema) (kf : Option String) (hk : SubAt s k s' kf) (hnd : s'.keysNodup = true)
    (hmem : k ∈ treeKeys t) (hok : (loadTree W fuel s path c t dv n).err = none) :
    ∃ node, (loadTree W fuel s path c t dv n).cfg.get k = some (.node node) ∧ node.keyfile = kf ∧ SchemaKeys d s' node := by
  obtain ⟨fuel', x, hg, hr⟩ := loadTree_rebuilds W fuel s path c t dv n k s' kf hk hmem hok
  exact ⟨x, hg, hr.keyfile_eq, hr.schemaKeys d hnd⟩

/-- a key file DECLARED by a config type (`.ctype s' kf`) comes back with a successful load of a map that mentions the slot,
    replacing whatever had been assigned; one assigned on a `.sub` slot is lost (`kf = none` in `loadTree_schema_keys_at`) -/
theorem declared_key_restored (W : World) (fuel : Nat) (s : Schema) (path : String) (c : Cfg) (t : List (Val × Val))
    (dv : Bool) (n : Nat) (k : String) (s' : Schema) (kf : Option String)
    (hf : s.get k = some (.ctype s' kf)) (hmem : k ∈ treeKeys t) (hok : (loadTree W fuel s path c t dv n).err = none) :
    ∃ node, (loadTree W fuel s path c t dv n).cfg.get k = some (.node node) ∧ node.keyfile = kf :=
  loadTree_schema_keys_at W fuel s path c t dv n k s' kf (Or.inr hf) hmem hok

/-- a successful load has a map under every key that names a sub-configuration field -/
theorem loadTree_sub_value_is_map (W : World) (fuel : Nat) (s s' : Schema) (kf : Option String) (path : String) :
    ∀ (t : List (Val × Val)) (c : Cfg) (dv : Bool) (n : Nat), (loadTree W fuel s path c t dv n).err = none →
      ∀ ks v, (Val.str ks, v) ∈ t → SubAt s (String.ofList ks) s' kf → ∃ kvs, v = .dict kvs := by
  intro t c dv n hok
  have h := loadTree_ok_induction W fuel s path dv
    (Q := fun _ t' => ∀ ks v, (Val.str ks, v) ∈ t → SubAt s (String.ofList ks) s' kf →
      (Val.str ks, v) ∈ t' ∨ ∃ kvs, v = .dict kvs) ?_ ?_ t c n hok (fun _ _ hm _ => Or.inl hm)
  · intro ks v hm hk
    rcases h ks v hm hk with h | h
    · cases h
    · exact h
  · intro c ks0 v0 rest hdec hq ks v hm hk
    rcases hq ks v hm hk with h | h
    · rcases List.mem_cons.mp h with e | h
      · cases e
        rw [decodeEntry_subAt hk] at hdec; cases hdec
      · exact Or.inl h
    · exact Or.inr h
  · intro c ks0 v0 rest a n hdec he hq ks v hm hk
    rcases hq ks v hm hk with h | h
    · rcases List.mem_cons.mp h with e | h
      · cases e
        rw [decodeEntry_subAt hk] at hdec; cases hdec
        exact Or.inr (setValue_subAt hk fuel path c _ n he).1
      · exact Or.inl h
    · exact Or.inr h

/-- the `keysNodup` hypothesis of `build_schemaKeys` cannot be dropped -/
theorem build_schemaKeys_needs_nodup (W : World) :
    let s : Schema := .mk [("a", .ctype (.mk [] false []) (some "K")), ("a", .sub (.mk [] false []))] false []
    ∃ c n', build W "" false none s 0 = .ok (c, n') ∧ ¬ SchemaKeys 1 s c := by
  refine ⟨_, _, rfl, ?_⟩
  intro h
  have := h "a" _ rfl
  simp [Cfg.get, Cfg.slots, Cfg.setDefault, Cfg.set, Cfg.withSlots, Cfg.withDefaults, setSlot, getSlot, Cfg.keyfile] at this

end Cinco.Config.KeyfileLoad
