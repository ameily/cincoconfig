import Cinco.Format.Xml
import Cinco.Proofs.Str
import Cinco.Proofs.Kvs
/-
  The XML element codec is inverse on every tree with distinct keys.  The type tags keep the scalars apart (for `bool` by the
  two token tables, `TablesOk`).  Decoding a dict re-inserts entry by entry with `Kvs.set`, so the induction over the entries
  carries the accumulator and asks that the keys still to come are new to it (`set_of_not_mem`).
-/
namespace Cinco.Xml
open Cinco Cinco.Str Cinco.Kvs

/-- what the XML codec needs from CPython's float text conversion -/
def FloatText.Lawful (ft : FloatText) : Prop := ∀ f, ft.parse (ft.print f) = some f

/-- what the XML codec needs from the generated Bool token tables -/
def TablesOk : Prop :=
  inTable Generated.trueValues (lower trueText) = true ∧
  inTable Generated.trueValues (lower falseText) = false ∧
  inTable Generated.falseValues (lower falseText) = true

theorem toElement_tag (ft : FloatText) (k : String) (t : Tree) : (toElement ft k t).tag = k := by
  cases t <;> rfl

mutual
  theorem codec (ft : FloatText) (hft : ft.Lawful) (htb : TablesOk) :
      ∀ (k : String) (t : Tree), t.wf = true → fromElement ft none (toElement ft k t) = t
    | k, .null, _ => by simp [toElement, fromElement]
    | k, .bool b, _ => by
        cases b
        · simp [toElement, fromElement, htb.2.1, htb.2.2]
        · simp [toElement, fromElement, htb.1]
    | k, .int i, _ => by simp [toElement, fromElement, pyInt_intRepr]
    | k, .flt f, _ => by simp [toElement, fromElement, hft f]
    | k, .str s, _ => by simp [toElement, fromElement]
    | k, .list xs, h => by
        simp only [toElement, fromElement, Tree.list.injEq]
        exact codecItems ft hft htb xs (by simpa [Tree.wf] using h)
    | k, .dict kvs, h => by
        simp only [toElement, fromElement, Tree.dict.injEq]
        simpa using codecEntries ft hft htb kvs [] (by simpa [Tree.wf] using h) (by simp)
  theorem codecItems (ft : FloatText) (hft : ft.Lawful) (htb : TablesOk) :
      ∀ (xs : List Tree), Tree.wfList xs = true → fromItems ft (toItems ft xs) = xs
    | [], _ => by simp [toItems, fromItems]
    | x :: xs, h => by
        simp only [Tree.wfList, Bool.and_eq_true] at h
        simp [toItems, fromItems, codec ft hft htb "item" x h.1, codecItems ft hft htb xs h.2]
  theorem codecEntries (ft : FloatText) (hft : ft.Lawful) (htb : TablesOk) :
      ∀ (kvs acc : Kvs), Tree.wfKvs kvs = true → (∀ k ∈ keys kvs, k ∉ keys acc) →
        fromEntries ft acc (toEntries ft kvs) = acc ++ kvs
    | [], acc, _, _ => by simp [toEntries, fromEntries]
    | (k, v) :: rest, acc, h, hdis => by
        simp only [Tree.wfKvs, Bool.and_eq_true, Bool.not_eq_true', List.contains_eq_mem,
          decide_eq_false_iff_not] at h
        obtain ⟨⟨hk, hv⟩, hrest⟩ := h
        have hka : k ∉ keys acc := hdis k (by simp)
        simp only [toEntries, fromEntries, toElement_tag, codec ft hft htb k v hv, set_of_not_mem v hka]
        rw [codecEntries ft hft htb rest (acc ++ [(k, v)]) hrest]
        · simp
        · intro k' hk'
          have : k' ≠ k := fun e => hk (e ▸ hk')
          simpa [this] using hdis k' (by simp [hk'])
end

end Cinco.Xml
