import Cinco.Heap.Model
/-
  Allocation in the heap model of C13 (`Cinco/Heap/Model.lean`): every allocating function of the model extends the heap by a
  forest of new cells of one owner (`Fresh`, `KidsOK`, `Allocates`).  Before that, the elementary facts about `alloc`, `write`,
  `get?`, `cell?` and `refsOf` that the modules after this one use throughout.
-/
namespace Cinco.Heap

/- The equation lemmas of the model's functions that several proofs of this file unfold are derived here, once.  Unfolding
   by `simp [f]` inside a proof derives them again in every proof that does it (proofs are checked in parallel and do not
   share them), at 50–150 ms apiece. -/
attribute [local simp] refsOf copyV buildFields

@[simp] theorem Heap.next_alloc (h : Heap) (o : Owner) (c : Cell) : (h.alloc o c).2.next = h.next + 1 := by
  simp [Heap.alloc, Heap.next]

@[simp] theorem Heap.alloc_fst (h : Heap) (o : Owner) (c : Cell) : (h.alloc o c).1 = h.next := rfl

theorem Heap.get?_alloc (h : Heap) (o : Owner) (c : Cell) (a : Nat) :
    (h.alloc o c).2.get? a = if a = h.next then some (o, c) else h.get? a := by
  show (h.cells ++ [(o, c)])[a]? = _
  rcases Nat.lt_trichotomy a h.next with hlt | rfl | hgt
  · rw [if_neg (Nat.ne_of_lt hlt)]
    exact List.getElem?_append_left hlt
  · rw [if_pos rfl]
    exact List.getElem?_concat_length
  · rw [if_neg (Nat.ne_of_gt hgt)]
    exact (List.getElem?_eq_none (by rw [List.length_append]; exact hgt)).trans (List.getElem?_eq_none (Nat.le_of_lt hgt)).symm

theorem Heap.get?_alloc_cases {h : Heap} {o o' : Owner} {c c' : Cell} {a : Nat} (e : (h.alloc o c).2.get? a = some (o', c')) :
    (a = h.next ∧ o' = o ∧ c' = c) ∨ (a ≠ h.next ∧ h.get? a = some (o', c')) := by
  rw [Heap.get?_alloc] at e
  split at e
  · cases e; exact Or.inl ⟨‹_›, rfl, rfl⟩
  · exact Or.inr ⟨‹_›, e⟩

@[simp] theorem Heap.next_write (h : Heap) (a : Nat) (c : Cell) : (h.write a c).next = h.next := by
  simp [Heap.write, Heap.next]

theorem Heap.get?_write (h : Heap) (a : Nat) (c : Cell) (b : Nat) :
    (h.write a c).get? b = if a = b then (h.get? b).map (fun p => (p.1, c)) else h.get? b := by
  simp only [Heap.write, Heap.get?, List.getElem?_modify]
  by_cases hab : a = b
  · subst hab; cases h.cells[a]? <;> simp
  · cases h.cells[b]? <;> simp [hab]

theorem Heap.get?_write_ne {h : Heap} {a b : Nat} (c : Cell) (hab : a ≠ b) : (h.write a c).get? b = h.get? b := by
  rw [Heap.get?_write, if_neg hab]

theorem Heap.get?_write_self {h : Heap} {a : Nat} {o : Owner} {c0 : Cell} (c : Cell) (e : h.get? a = some (o, c0)) :
    (h.write a c).get? a = some (o, c) := by
  rw [Heap.get?_write, if_pos rfl, e]
  rfl

theorem Heap.get?_write_cases {h : Heap} {a x : Nat} {o0 o : Owner} {c0 c' c : Cell} (e0 : h.get? a = some (o0, c0))
    (e : (h.write a c').get? x = some (o, c)) : (x = a ∧ o = o0 ∧ c = c') ∨ (a ≠ x ∧ h.get? x = some (o, c)) := by
  by_cases hax : a = x
  · subst hax
    rw [Heap.get?_write_self c' e0] at e
    cases e
    exact Or.inl ⟨rfl, rfl, rfl⟩
  · exact Or.inr ⟨hax, Heap.get?_write_ne c' hax ▸ e⟩

theorem Heap.get?_lt {h : Heap} {a : Nat} {p : Owner × Cell} (e : h.get? a = some p) : a < h.next :=
  (List.getElem?_eq_some_iff.mp e).1

theorem Heap.get?_of_lt {h : Heap} {a : Nat} (ha : a < h.next) : ∃ p, h.get? a = some p :=
  ⟨h.cells[a], List.getElem?_eq_getElem ha⟩

theorem Heap.get?_none {h : Heap} {a : Nat} (e : h.next ≤ a) : h.get? a = none := by
  simp [Heap.get?, Heap.next] at *; exact e

theorem Heap.cell?_eq {h : Heap} {a : Nat} {o : Owner} {c : Cell} (e : h.get? a = some (o, c)) : h.cell? a = some c := by
  simp [Heap.cell?, e]

theorem Heap.cell?_some {h : Heap} {a : Nat} {c : Cell} (e : h.cell? a = some c) : ∃ o, h.get? a = some (o, c) := by
  obtain ⟨⟨o, c'⟩, hg, rfl⟩ := Option.map_eq_some_iff.mp e
  exact ⟨o, hg⟩

/-- if `v` is a reference, it lies in `[m, b)` -/
def NewBelow (m b : Nat) : HVal → Prop
  | .ref x => m ≤ x ∧ x < b
  | _ => True

theorem NewBelow.mono {m m' b b' : Nat} {v : HVal} (hm : m' ≤ m) (hb : b ≤ b') (p : NewBelow m b v) : NewBelow m' b' v := by
  cases v with
  | ref x => exact ⟨Nat.le_trans hm p.1, Nat.lt_of_lt_of_le p.2 hb⟩
  | atom _ | null => trivial

theorem NewBelow.lt {m b : Nat} {v : HVal} (p : NewBelow m b v) : ∀ x, v = .ref x → x < b := by
  intro x hx; subst hx; exact p.2

theorem mem_refsOf {b : Nat} {vs : List HVal} : b ∈ refsOf vs ↔ HVal.ref b ∈ vs := by
  induction vs with
  | nil => simp
  | cons v vs ih => cases v <;> simp [ih]

theorem refsOf_eq_filterMap (vs : List HVal) :
    refsOf vs = vs.filterMap (fun v => match v with | .ref b => some b | _ => none) := by
  induction vs with
  | nil => rfl
  | cons v vs ih => cases v <;> simp [ih]

theorem refsOf_append (a b : List HVal) : refsOf (a ++ b) = refsOf a ++ refsOf b := by
  simp only [refsOf_eq_filterMap, List.filterMap_append]

theorem refsOf_cons_nodup {w : HVal} {vs : List HVal} :
    (refsOf (w :: vs)).Nodup ↔ (∀ b, w = .ref b → b ∉ refsOf vs) ∧ (refsOf vs).Nodup := by
  cases w <;> simp

/-- `h'` is `h` plus new cells, all owned by `o`, whose references point to *earlier new* cells only, and no new cell
    is referenced twice from the new cells -/
structure Fresh (o : Owner) (h h' : Heap) : Prop where
  grow : ∃ ext, h'.cells = h.cells ++ ext ∧ ∀ p ∈ ext, p.1 = o
  ord : ∀ b o' c, h.next ≤ b → h'.get? b = some (o', c) → ∀ v ∈ c.kids, NewBelow h.next b v
  nodup : ∀ a o' c, h.next ≤ a → h'.get? a = some (o', c) → (refsOf c.kids).Nodup
  uniq : ∀ a1 o1 c1 a2 o2 c2 b, h.next ≤ a1 → h.next ≤ a2 → h'.get? a1 = some (o1, c1) → h'.get? a2 = some (o2, c2) →
    HVal.ref b ∈ c1.kids → HVal.ref b ∈ c2.kids → a1 = a2

/-- no cell of `g` from address `m` on refers to `v` -/
def Unref (m : Nat) (g : Heap) (v : HVal) : Prop :=
  ∀ b, v = .ref b → ∀ a o c, m ≤ a → g.get? a = some (o, c) → HVal.ref b ∉ c.kids

/-- the values returned by an allocating function: new (or not references), not yet referenced, pairwise distinct -/
structure KidsOK (h h' : Heap) (vs : List HVal) : Prop where
  nb : ∀ v ∈ vs, NewBelow h.next h'.next v
  unref : ∀ v ∈ vs, Unref h.next h' v
  nodup : (refsOf vs).Nodup

theorem KidsOK.nil (h h' : Heap) : KidsOK h h' [] := ⟨by simp, by simp, by simp⟩

theorem KidsOK.nonref (h h' : Heap) {v : HVal} (hv : v.isRef = false) : KidsOK h h' [v] := by
  refine ⟨fun w hw => ?_, fun w hw b hb => ?_, ?_⟩
  · cases List.mem_singleton.mp hw; cases v <;> first | trivial | cases hv
  · cases List.mem_singleton.mp hw; subst hb; cases hv
  · cases v <;> first | exact List.nodup_nil | cases hv

theorem KidsOK.val {h h' : Heap} {v : HVal} (k : KidsOK h h' [v]) : NewBelow h.next h'.next v := k.nb v (by simp)

theorem Fresh.refl (o : Owner) (h : Heap) : Fresh o h h :=
  ⟨⟨[], by simp, by simp⟩, fun b o' c hb e => by have := Heap.get?_lt e; omega,
   fun a o' c hb e => by have := Heap.get?_lt e; omega,
   fun a1 o1 c1 a2 o2 c2 b hb _ e => by have := Heap.get?_lt e; omega⟩

/-- The unit of reasoning about allocation is the pair `Fresh o h h' ∧ KidsOK h h' vs`: `h'` is `h` plus a forest of new
    cells of `o` whose roots are the values `vs`.  The lemmas below take and give the pair as one conjunction.
    `Allocates o f`: at every heap `f` yields such a pair with one root (a non-reference, or a new, not yet referenced cell);
    this is the specification shared by every allocating function. -/
def Allocates (o : Owner) (f : Heap → HVal × Heap) : Prop :=
  ∀ h, Fresh o h (f h).2 ∧ KidsOK h (f h).2 [(f h).1]

theorem allocates_pure (o : Owner) (v : HVal) (hv : v.isRef = false) : Allocates o (fun h => (v, h)) :=
  fun h => ⟨Fresh.refl o h, KidsOK.nonref h h hv⟩

theorem forest_nil (o : Owner) (h : Heap) : Fresh o h h ∧ KidsOK h h [] := ⟨Fresh.refl o h, KidsOK.nil h h⟩

theorem Fresh.next_le {o : Owner} {h h' : Heap} (f : Fresh o h h') : h.next ≤ h'.next := by
  obtain ⟨ext, e, _⟩ := f.grow
  simp [Heap.next, e]

theorem Fresh.get?_old {o : Owner} {h h' : Heap} (f : Fresh o h h') {a : Nat} (ha : a < h.next) : h'.get? a = h.get? a := by
  obtain ⟨ext, e, _⟩ := f.grow
  simp only [Heap.get?, e]
  exact List.getElem?_append_left ha

theorem Fresh.get?_of {o : Owner} {h h' : Heap} (f : Fresh o h h') {a : Nat} {p : Owner × Cell} (e : h.get? a = some p) :
    h'.get? a = some p := by rw [f.get?_old (Heap.get?_lt e)]; exact e

theorem Fresh.owner_new {o : Owner} {h h' : Heap} (f : Fresh o h h') {b : Nat} {o' : Owner} {c : Cell}
    (hb : h.next ≤ b) (e : h'.get? b = some (o', c)) : o' = o := by
  obtain ⟨ext, e1, e2⟩ := f.grow
  simp only [Heap.get?, e1] at e
  rw [List.getElem?_append_right hb] at e
  exact e2 _ (List.mem_of_getElem? e)

theorem Fresh.cell_cases {o : Owner} {h h' : Heap} (f : Fresh o h h') {a : Nat} {o' : Owner} {c : Cell}
    (e : h'.get? a = some (o', c)) :
    (a < h.next ∧ h.get? a = some (o', c)) ∨ (h.next ≤ a ∧ ∀ b, HVal.ref b ∈ c.kids → h.next ≤ b ∧ b < a) := by
  by_cases ha : a < h.next
  · exact Or.inl ⟨ha, f.get?_old ha ▸ e⟩
  · exact Or.inr ⟨Nat.le_of_not_lt ha, fun b hb => f.ord a o' c (Nat.le_of_not_lt ha) e _ hb⟩

theorem Fresh.trans {o : Owner} {h h1 h2 : Heap} (f1 : Fresh o h h1) (f2 : Fresh o h1 h2) : Fresh o h h2 := by
  obtain ⟨x1, e1, o1⟩ := f1.grow
  obtain ⟨x2, e2, o2⟩ := f2.grow
  refine ⟨⟨x1 ++ x2, by rw [e2, e1, List.append_assoc], ?_⟩, ?_, ?_, ?_⟩
  · intro p hp
    rcases List.mem_append.mp hp with hp | hp
    · exact o1 p hp
    · exact o2 p hp
  · intro b o' c hb e v hv
    rcases f2.cell_cases e with ⟨_, e'⟩ | ⟨l, _⟩
    · exact f1.ord b o' c hb e' v hv
    · exact (f2.ord b o' c l e v hv).mono f1.next_le (Nat.le_refl _)
  · intro a o' c ha e
    rcases f2.cell_cases e with ⟨_, e'⟩ | ⟨l, _⟩
    · exact f1.nodup a o' c ha e'
    · exact f2.nodup a o' c l e
  · intro a1 o1' c1 a2 o2' c2 b ha1 ha2 e1' e2' hb1 hb2
    rcases f2.cell_cases e1' with ⟨_, e1⟩ | ⟨l1, k1⟩ <;> rcases f2.cell_cases e2' with ⟨_, e2⟩ | ⟨l2, k2⟩
    · exact f1.uniq a1 o1' c1 a2 o2' c2 b ha1 ha2 e1 e2 hb1 hb2
    · have := (f1.ord a1 o1' c1 ha1 e1 _ hb1).2; have := Heap.get?_lt e1; have := (k2 b hb2).1; omega
    · have := (f1.ord a2 o2' c2 ha2 e2 _ hb2).2; have := Heap.get?_lt e2; have := (k1 b hb1).1; omega
    · exact f2.uniq a1 o1' c1 a2 o2' c2 b l1 l2 e1' e2' hb1 hb2

theorem Fresh.alloc {o : Owner} {h0 h : Heap} (f : Fresh o h0 h) (c : Cell) (hk : KidsOK h0 h c.kids) :
    Fresh o h0 (h.alloc o c).2 := by
  obtain ⟨x, e, ho⟩ := f.grow
  refine ⟨⟨x ++ [(o, c)], by simp [Heap.alloc, e], ?_⟩, ?_, ?_, ?_⟩
  · intro p hp
    rcases List.mem_append.mp hp with hp | hp
    · exact ho p hp
    · cases List.mem_singleton.mp hp; rfl
  · intro b o' c' hb e' v hv
    rcases Heap.get?_alloc_cases e' with ⟨rfl, rfl, rfl⟩ | ⟨_, e'⟩
    · exact hk.nb v hv
    · exact f.ord b o' c' hb e' v hv
  · intro a o' c' ha e'
    rcases Heap.get?_alloc_cases e' with ⟨rfl, rfl, rfl⟩ | ⟨_, e'⟩
    · exact hk.nodup
    · exact f.nodup a o' c' ha e'
  · intro a1 o1 c1 a2 o2 c2 b ha1 ha2 e1 e2 hb1 hb2
    rcases Heap.get?_alloc_cases e1 with ⟨rfl, rfl, rfl⟩ | ⟨_, e1'⟩ <;> rcases Heap.get?_alloc_cases e2 with ⟨rfl, rfl, rfl⟩ | ⟨_, e2'⟩
    · rfl
    · exact absurd hb2 (hk.unref _ hb1 b rfl a2 o2 c2 ha2 e2')
    · exact absurd hb1 (hk.unref _ hb2 b rfl a1 o1 c1 ha1 e1')
    · exact f.uniq a1 o1 c1 a2 o2 c2 b ha1 ha2 e1' e2' hb1 hb2

/-- a cell allocated on top of the forest whose roots are its kids is an `Allocates` result: every allocator proof ends here -/
theorem fresh_alloc_ref {o : Owner} {h0 h : Heap} (c : Cell) (p : Fresh o h0 h ∧ KidsOK h0 h c.kids) :
    Fresh o h0 (h.alloc o c).2 ∧ KidsOK h0 (h.alloc o c).2 [.ref (h.alloc o c).1] := by
  obtain ⟨f, hk⟩ := p
  have f' := f.alloc c hk
  refine ⟨f', ⟨?_, ?_, by simp⟩⟩
  · intro v hv; simp at hv; subst hv
    simp only [NewBelow, Heap.next_alloc]
    exact ⟨f.next_le, Nat.lt_succ_self _⟩
  · intro v hv; simp at hv; subst hv
    intro b hb a o' c' ha e' hm
    simp at hb; subst hb
    have p := f'.ord a o' c' ha e' _ hm
    have := Heap.get?_lt e'
    simp at this
    have := p.2; omega

theorem forest_cons {o : Owner} {h h1 h2 : Heap} {v : HVal} {vs : List HVal} (p1 : Fresh o h h1 ∧ KidsOK h h1 [v])
    (p2 : Fresh o h1 h2 ∧ KidsOK h1 h2 vs) : Fresh o h h2 ∧ KidsOK h h2 (v :: vs) := by
  obtain ⟨f1, k1⟩ := p1
  obtain ⟨f2, k2⟩ := p2
  have hv := k1.val
  refine ⟨f1.trans f2, ?_, ?_, ?_⟩
  · intro w hw
    rcases List.mem_cons.mp hw with hw | hw
    · subst hw; exact hv.mono (Nat.le_refl _) f2.next_le
    · exact (k2.nb w hw).mono f1.next_le (Nat.le_refl _)
  · intro w hw b hb a o' c ha e hm
    subst hb
    rcases List.mem_cons.mp hw with hw | hw
    · subst hw
      rcases f2.cell_cases e with ⟨_, e'⟩ | ⟨_, k⟩
      · exact k1.unref _ List.mem_cons_self b rfl a o' c ha e' hm
      · have := (k b hm).1; have := hv.2; omega
    · have pw := k2.nb _ hw
      rcases f2.cell_cases e with ⟨la, e'⟩ | ⟨la, _⟩
      · have := (f1.ord a o' c ha e' _ hm).2; have := pw.1; omega
      · exact k2.unref _ hw b rfl a o' c la e hm
  · refine refsOf_cons_nodup.mpr ⟨fun b hb hm => ?_, k2.nodup⟩
    subst hb
    have := (k2.nb _ (mem_refsOf.mp hm)).1; have := hv.2; omega

mutual
  /-- `Allocates o (allocT o t)` written out; it is passed where an `Allocates` is asked for -/
  theorem allocT_fresh (o : Owner) : ∀ (t : Tree) (h : Heap),
      Fresh o h (allocT o t h).2 ∧ KidsOK h (allocT o t h).2 [(allocT o t h).1]
    | .null, h | .atom _, h => allocates_pure o _ rfl h
    | .list ts, h => by
      have ih := allocTs_fresh o ts h
      exact fresh_alloc_ref _ ih
    | .dict kvs, h => by
      have ih := allocKvs_fresh o kvs h
      exact fresh_alloc_ref _ ih
  theorem allocTs_fresh (o : Owner) : ∀ (ts : List Tree) (h : Heap),
      Fresh o h (allocTs o ts h).2 ∧ KidsOK h (allocTs o ts h).2 (Cell.list (allocTs o ts h).1).kids
    | [], h => forest_nil o h
    | t :: ts, h => by
      have i1 := allocT_fresh o t h
      have i2 := allocTs_fresh o ts (allocT o t h).2
      exact forest_cons i1 i2
  theorem allocKvs_fresh (o : Owner) : ∀ (ts : List (String × Tree)) (h : Heap),
      Fresh o h (allocKvs o ts h).2 ∧ KidsOK h (allocKvs o ts h).2 (Cell.dict (allocKvs o ts h).1).kids
    | [], h => forest_nil o h
    | (k, t) :: ts, h => by
      have i1 := allocT_fresh o t h
      have i2 := allocKvs_fresh o ts (allocT o t h).2
      exact forest_cons i1 i2
end

theorem threadL_fresh {o : Owner} {f : HVal → Heap → HVal × Heap} (hf : ∀ v, Allocates o (f v)) (vs : List HVal) (h : Heap) :
    Fresh o h (threadL f vs h).2 ∧ KidsOK h (threadL f vs h).2 (Cell.list (threadL f vs h).1).kids := by
  induction vs generalizing h with
  | nil => exact forest_nil o h
  | cons x vs ih =>
    have i1 := hf x h
    have i2 := ih (f x h).2
    exact forest_cons i1 i2

theorem threadK_fresh {o : Owner} {f : HVal → Heap → HVal × Heap} (hf : ∀ v, Allocates o (f v)) (vs : Slots) (h : Heap) :
    Fresh o h (threadK f vs h).2 ∧ KidsOK h (threadK f vs h).2 (Cell.dict (threadK f vs h).1).kids := by
  induction vs generalizing h with
  | nil => exact forest_nil o h
  | cons p vs ih =>
    have i1 := hf p.2 h
    have i2 := ih (f p.2 h).2
    exact forest_cons i1 i2

theorem copyV_allocates (o : Owner) (n : Nat) (v : HVal) : Allocates o (copyV o n v) := by
  intro h
  induction n generalizing v h with
  | zero => cases v <;> exact allocates_pure o _ rfl h
  | succ n ih =>
    cases v with
    | null | atom _ => exact allocates_pure o _ rfl h
    | ref a =>
      simp only [copyV]
      cases hc : h.cell? a with
      | none => exact allocates_pure o _ rfl h
      | some c =>
        cases c with
        | list items =>
          have t := threadL_fresh (f := copyV o n) ih items h
          exact fresh_alloc_ref _ t
        | dict kvs =>
          have t := threadK_fresh (f := copyV o n) ih kvs h
          exact fresh_alloc_ref _ t
        | cfg k sl dy =>
          have t := threadK_fresh (f := copyV o n) ih sl h
          exact fresh_alloc_ref (.cfg k _ dy) t

theorem storeDefault_eq_copy {o : Owner} {d : Disc} {dv : HVal} (hd : d = .deep ∨ dv.isRef = false) (h : Heap) :
    storeDefault o d dv h = copyV o h.next dv h := by
  rcases hd with rfl | hd
  · rfl
  · cases dv with
    | ref _ => cases hd
    | atom _ => cases d <;> simp [storeDefault, shallowV]
    | null => cases d <;> simp [storeDefault, shallowV]

theorem storeDefault_allocates (o : Owner) (d : Disc) (dv : HVal) (hd : d = .deep ∨ dv.isRef = false) :
    Allocates o (storeDefault o d dv) := by
  intro h
  rw [storeDefault_eq_copy hd]
  exact copyV_allocates o h.next dv h

/-- the condition of `AllDeep` on the field list of one schema -/
def FieldsDeep (fs : List (String × FieldDecl)) : Prop :=
  ∀ name disc dv, (name, FieldDecl.leaf disc dv) ∈ fs → disc = .deep ∨ dv.isRef = false

theorem FieldsDeep.tail {p : String × FieldDecl} {fs : List (String × FieldDecl)} (hd : FieldsDeep (p :: fs)) : FieldsDeep fs :=
  fun name disc dv hm => hd name disc dv (List.mem_cons_of_mem _ hm)

theorem AllDeep.fields {S : Schemas} (hS : AllDeep S) {k : Nat} {sd : SchemaDecl} (e : S[k]? = some sd) : FieldsDeep sd.fields :=
  fun name disc dv hm => hS sd (List.mem_of_getElem? e) name disc dv hm

/-- the value stored for one field by `buildFields` -/
def fieldVal (rec : Nat → Heap → HVal × Heap) (o : Owner) (d : FieldDecl) (h : Heap) : HVal × Heap :=
  match d with
  | .leaf disc dv => storeDefault o disc dv h
  | .sub s => rec s h
  | .cfgList _ => (.ref (h.alloc o (.list [])).1, (h.alloc o (.list [])).2)

theorem buildFields_cons (rec : Nat → Heap → HVal × Heap) (o : Owner) (name : String) (d : FieldDecl)
    (fs : List (String × FieldDecl)) (h : Heap) :
    buildFields rec o ((name, d) :: fs) h =
      ((name, (fieldVal rec o d h).1) :: (buildFields rec o fs (fieldVal rec o d h).2).1,
       (buildFields rec o fs (fieldVal rec o d h).2).2) := by
  cases d <;> simp [fieldVal]

theorem fieldVal_allocates {o : Owner} {rec : Nat → Heap → HVal × Heap} (hr : ∀ s, Allocates o (rec s))
    (d : FieldDecl) (hd : ∀ disc dv, d = .leaf disc dv → disc = .deep ∨ dv.isRef = false) : Allocates o (fieldVal rec o d) := by
  intro h
  cases d with
  | leaf disc dv => exact storeDefault_allocates o disc dv (hd disc dv rfl) h
  | sub s => exact hr s h
  | cfgList s => exact fresh_alloc_ref (.list []) (forest_nil o h)

theorem buildFields_fresh {o : Owner} {rec : Nat → Heap → HVal × Heap} (hr : ∀ s, Allocates o (rec s))
    (fs : List (String × FieldDecl)) (h : Heap) (hd : FieldsDeep fs) :
    Fresh o h (buildFields rec o fs h).2 ∧ KidsOK h (buildFields rec o fs h).2 ((buildFields rec o fs h).1.map (·.2)) := by
  induction fs generalizing h with
  | nil => exact forest_nil o h
  | cons p fs ih =>
    obtain ⟨name, d⟩ := p
    have i1 := fieldVal_allocates hr d (fun disc dv e => hd name disc dv (by rw [e]; exact List.mem_cons_self)) h
    have i2 := ih (fieldVal rec o d h).2 hd.tail
    rw [buildFields_cons]
    exact forest_cons i1 i2

theorem buildCfg_allocates {S : Schemas} (hS : AllDeep S) (o : Owner) (n k : Nat) : Allocates o (buildCfg S o n k) := by
  intro h
  induction n generalizing k h with
  | zero => exact allocates_pure o _ rfl h
  | succ n ih =>
    simp only [buildCfg]
    cases e : S[k]? with
    | none => exact allocates_pure o _ rfl h
    | some sd =>
      have t := buildFields_fresh (rec := buildCfg S o n) ih sd.fields h (hS.fields e)
      exact fresh_alloc_ref (.cfg k _ []) t

end Cinco.Heap
