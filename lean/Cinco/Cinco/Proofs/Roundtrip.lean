import Cinco.Proofs.Cfg
import Cinco.Proofs.ToTree
import Cinco.Proofs.Leaves
import Cinco.Props.C11
/-
  Saving and re-loading a configuration reproduces it (`roundtrip_into`; Props/C02.lean states it for a freshly built
  configuration, with and without validation on load).  The codec of the individual field kinds is a hypothesis (`CodecOk`,
  per leaf value held; discharged in RoundtripLeaf.lean).

  By induction over the nesting depth, entry by entry of what `to_tree` writes (`mem_toTree`, Proofs/ToTree.lean).  Nested
  configurations are re-created and validated by `load_tree` whatever its `validate` argument: that validation passes
  because it transfers along `SameValues` (`validate_transfer`), so the statement with validation (`rt_validating`) is
  available one level down.  Props/C11.lean is imported for `C11.validateCfg_none_iff` (what it means that validation finds
  nothing), through which `validate_transfer` reads both validations.
-/
namespace Cinco.Config
open Cinco Cinco.Field

/-- the value `v'` a leaf of field `fs` holds after save + reload, compared with the value `v` it held before:
    the same, or one of the two normalisations the property allows -/
def LeafSame (fs : FieldSpec) (v v' : Val) : Prop :=
  v' = v ∨
  (v = .none ∧ v' = .list [] ∧ ∃ it, fs.kind = .list it) ∨
  (v = .none ∧ v' = .dict [] ∧ ∃ kf vf, fs.kind = .dict kf vf) ∨
  (v = .str [] ∧ v' = .none ∧ ∃ m, fs.kind = .secure m)

/-- element-wise relation between two lists of configurations of the same length (Mathlib's `List.Forall₂`; core and Std
    have none) -/
def ListSame (R : Cfg → Cfg → Prop) : List Cfg → List Cfg → Prop
  | [], [] => True
  | a :: as, b :: bs => R a b ∧ ListSame R as bs
  | _, _ => False

/-- does a configuration keep a slot for this field?  (virtual and instance-method fields compute their value) -/
def SField.stores : SField → Bool
  | .virtual _ _ => false
  | .method => false
  | _ => true

/-- `x` holds nothing under keys that are undeclared or declared as non-storing fields -/
def OnlyStored (s : Schema) (x : Cfg) : Prop :=
  ∀ k, (∀ f, s.get k = some f → f.stores = false) → x.get k = none

/-- what `c'` holds outside the declared storing fields: the dynamically added value fields of `c`, and nothing that `c`
    did not hold -/
def Extras (s : Schema) (c c' : Cfg) : Prop :=
  (∀ k, k ∈ c.dyn → s.get k = none → ∀ v, c.get k = some (.val v) → c'.get k = some (.val v)) ∧
  (∀ k, (∀ f, s.get k = some f → f.stores = false) → ∀ sl, c'.get k = some sl → c.get k = some sl)

/-- `c'` holds, under every declared key and at every depth, the same value as `c` (up to the allowed normalisations), the
    same dynamically added values, and nothing else.  The fuel must exceed the nesting depth of `c`: at fuel `0` the relation
    is *false*, so `SameValues W d s c c'` really compares every level down to the leaves (`sameValues_mono`: more fuel
    keeps it). -/
def SameValues (W : World) : Nat → Schema → Cfg → Cfg → Prop
  | 0, _, _, _ => False
  | d + 1, s, c, c' => Extras s c c' ∧ ∀ k f, s.get k = some f →
      match f, c.get k, c'.get k with
      | .leaf fs _, some (.val v), some (.val v') => LeafSame fs v v'
      | .sub s', some (.node a), some (.node b) => SameValues W d s' a b
      | .ctype s' _, some (.node a), some (.node b) => SameValues W d s' a b
      | .cfgList s' _ _ _, some (.nodes as), some (.nodes bs) => ListSame (SameValues W d s') as bs
      | .cfgList _ _ _ _, some (.val .none), some (.nodes []) => True
      | .virtual _ _, _, _ => True
      | .method, _, _ => True
      | _, _, _ => False

/-- The clause of `SameValues` for one declared field, as a relation between the two slots, so that proofs can name it and
    case on the field class (`sameValues_succ_iff`, by `Iff.rfl`; `LeavesAt` does the same for `AllLeaves`).  The predicates
    below that walk a schema are written through such a clause (`SchemaReadyAt`, `ShapedAt`, `ValidAt`, `SchemaLoadableAt`):
    the clause is not recursive and takes what holds one level down as its parameter `R`, the recursion on the fuel stays in
    the predicate itself. -/
def SlotSame (W : World) (d : Nat) : SField → Option Slot → Option Slot → Prop
  | .leaf fs _, some (.val v), some (.val v') => LeafSame fs v v'
  | .sub s', some (.node a), some (.node b) => SameValues W d s' a b
  | .ctype s' _, some (.node a), some (.node b) => SameValues W d s' a b
  | .cfgList s' _ _ _, some (.nodes as), some (.nodes bs) => ListSame (SameValues W d s') as bs
  | .cfgList _ _ _ _, some (.val .none), some (.nodes []) => True
  | .virtual _ _, _, _ => True
  | .method, _, _ => True
  | _, _, _ => False

theorem sameValues_succ_iff {W : World} {d : Nat} {s : Schema} {c c' : Cfg} :
    SameValues W (d + 1) s c c' ↔
      Extras s c c' ∧ ∀ k f, s.get k = some f → SlotSame W d f (c.get k) (c'.get k) := Iff.rfl

/-- the per-leaf codec hypothesis (discharged in RoundtripLeaf.lean, per field kind) -/
def CodecOk (W : World) (fs : FieldSpec) (v : Val) : Prop :=
  ∀ b, toBasic W.fe fs v = .ok b → ∃ v', (toPython W.fe fs b).bind (validate W.fe.toEnv fs) = .ok v' ∧ LeafSame fs v v'

theorem slotSame_leaf_inv {W : World} {d : Nat} {fs : FieldSpec} {m : LeafMeta} {a b : Option Slot}
    (h : SlotSame W d (.leaf fs m) a b) : ∃ v v', a = some (.val v) ∧ b = some (.val v') ∧ LeafSame fs v v' := by
  rcases a with _ | (v | ca | as) <;> rcases b with _ | (v' | cb | bs) <;>
    first | exact False.elim h | exact ⟨_, _, rfl, rfl, h⟩

theorem slotSame_node_inv {W : World} {d : Nat} {f : SField} {s' : Schema} {kf : Option String} {a b : Option Slot}
    (hf : subSchema f = some (s', kf)) (h : SlotSame W d f a b) :
    ∃ ca cb, a = some (.node ca) ∧ b = some (.node cb) ∧ SameValues W d s' ca cb := by
  cases f <;> cases hf <;> rcases a with _ | (v | ca | as) <;> rcases b with _ | (v' | cb | bs) <;>
    first | exact False.elim h | exact ⟨_, _, rfl, rfl, h⟩

theorem slotSame_list_inv {W : World} {d : Nat} {s' : Schema} {it req : Bool} {m : LeafMeta} {a b : Option Slot}
    (h : SlotSame W d (.cfgList s' it req m) a b) :
    (a = some (.val .none) ∧ b = some (.nodes [])) ∨
    ∃ as bs, a = some (.nodes as) ∧ b = some (.nodes bs) ∧ ListSame (SameValues W d s') as bs := by
  rcases a with _ | (v | ca | as) <;> rcases b with _ | (v' | cb | bs) <;>
    first
    | exact False.elim h
    | exact Or.inr ⟨_, _, rfl, rfl, h⟩
    | (cases v <;> first | exact False.elim h | (cases bs <;> first | exact False.elim h | exact Or.inl ⟨rfl, rfl⟩))

theorem leafSame_truthy {fs : FieldSpec} {v v' : Val} (h : LeafSame fs v v') : v'.truthy = v.truthy := by
  rcases h with rfl | ⟨rfl, rfl, _⟩ | ⟨rfl, rfl, _⟩ | ⟨rfl, rfl, _⟩ <;> simp [Val.truthy]

theorem listSame_length {R : Cfg → Cfg → Prop} {as bs : List Cfg} (h : ListSame R as bs) : bs.length = as.length := by
  induction as generalizing bs with
  | nil =>
    cases bs with
    | nil => rfl
    | cons _ _ => exact False.elim h
  | cons _ as ih =>
    cases bs with
    | nil => exact False.elim h
    | cons _ bs => simp [ih h.2]

/-- a leaf value whose allowed normal forms validate whenever it does -/
def LeafStable (W : World) (fs : FieldSpec) (v : Val) : Prop :=
  ∀ v', LeafSame fs v v' → (∃ r, validate W.fe.toEnv fs v = .ok r) → ∃ r', validate W.fe.toEnv fs v' = .ok r'

/-- from the reloaded `x` back to the saved `c`: a feature flag that is on after the reload was on before -/
theorem featureEnabled_back {W : World} {d : Nat} {s : Schema} {c x : Cfg} (hnd : s.keysNodup = true)
    (hsame : ∀ k f, s.get k = some f → SlotSame W d f (c.get k) (x.get k)) (h : featureEnabled s x = true) :
    featureEnabled s c = true := by
  unfold featureEnabled at h ⊢
  rw [List.all_eq_true] at h ⊢
  intro kf hmem
  obtain ⟨k, f⟩ := kf
  have hx := h (k, f) hmem
  cases f with
  | leaf fs m =>
    by_cases hf : m.isFlag = true
    · simp only [hf, if_true] at hx ⊢
      obtain ⟨v, v', hc, hxx, hl⟩ := slotSame_leaf_inv (hsame k _ (lookupField_of_mem ((every_iff.1 hnd).1) hmem))
      rw [hc]
      rw [hxx] at hx
      simp only at hx ⊢
      rw [← leafSame_truthy hl]
      exact hx
    · simp [hf]
  | _ => rfl

/-- from the reloaded `x` back to the saved `c`: an integer held after the reload was held before -/
theorem get_int_back {W : World} {d : Nat} {s : Schema} {c x : Cfg} (hos : Extras s c x)
    (hsame : ∀ k f, s.get k = some f → SlotSame W d f (c.get k) (x.get k)) {k : String} {i : Int}
    (hx : x.get k = some (.val (.int i))) : c.get k = some (.val (.int i)) := by
  cases hk : s.get k with
  | none => exact hos.2 k (fun f hf => by rw [hk] at hf; cases hf) _ hx
  | some f =>
    have hs := hsame k f hk
    cases f with
    | virtual _ _ | method => exact hos.2 k (fun f hf => by rw [hk] at hf; cases hf; rfl) _ hx
    | leaf fs m =>
      obtain ⟨v, v', hc, hxx, hl⟩ := slotSame_leaf_inv hs
      rw [hxx] at hx
      cases hx
      rw [hc]
      rcases hl with rfl | ⟨_, ⟨⟩, _⟩ | ⟨_, ⟨⟩, _⟩ | ⟨_, ⟨⟩, _⟩
      rfl
    | sub s' | ctype s' _ =>
      obtain ⟨ca, cb, _, hxx, _⟩ := slotSame_node_inv rfl hs
      rw [hxx] at hx; cases hx
    | cfgList s' it req m =>
      rcases slotSame_list_inv hs with ⟨_, hxx⟩ | ⟨_, _, _, hxx, _⟩ <;> (rw [hxx] at hx; cases hx)

/-- from the saved `c` to the reloaded `x`: a schema validator that passed still passes -/
theorem schemaValidator_transfer {W : World} {d : Nat} {s : Schema} {c x : Cfg} (hos : Extras s c x)
    (hsame : ∀ k f, s.get k = some f → SlotSame W d f (c.get k) (x.get k)) (name : String)
    (h : schemaValidator name c = true) : schemaValidator name x = true := by
  unfold schemaValidator at h ⊢
  split
  · simp at h
  · simp only at h
    split
    · rename_i a b ha hb
      rw [get_int_back hos hsame ha, get_int_back hos hsame hb] at h
      exact h
    · rfl
  · rfl

/-- **Validation transfers along `SameValues`**: if the saved configuration validates, so does every configuration that holds
    the same values and nothing else — provided the normal forms of its leaf values validate (`LeafStable`). -/
theorem validate_transfer (W : World) (d F : Nat) (s : Schema) (c x : Cfg) (p p' : String)
    (hnd : s.keysNodup = true) (hsame : SameValues W d s c x) (hst : AllLeaves (LeafStable W) d s c)
    (h : validateCfg W F s p c = none) : validateCfg W F s p' x = none := by
  induction d generalizing F s c x p p' with
  | zero => exact False.elim hsame
  | succ d ih =>
    cases F with
    | zero =>
      rw [validateCfg] at h
      cases h
    | succ F =>
      obtain ⟨hos, hslots⟩ := sameValues_succ_iff.1 hsame
      rw [C11.validateCfg_none_iff] at h ⊢
      by_cases hen : featureEnabled s x = true
      · have henc := featureEnabled_back hnd hslots hen
        rcases h with h | ⟨hall, hvs⟩
        · rw [henc] at h; cases h
        · refine Or.inr ⟨?_, fun v hv => schemaValidator_transfer hos hslots v (hvs v hv)⟩
          intro kf hmem
          obtain ⟨k, f⟩ := kf
          have hk : s.get k = some f := lookupField_of_mem ((every_iff.1 hnd).1) hmem
          have hslot := hslots k f hk
          have hp := hall (k, f) hmem
          have hl := allLeaves_succ_iff.1 hst k f hk
          cases f with
          | virtual _ _ | method => simp [fieldProblem]
          | leaf fs m =>
            obtain ⟨v, v', hc, hx, hsm⟩ := slotSame_leaf_inv hslot
            simp only [fieldProblem, hc, hx] at hp ⊢
            rw [hc] at hl
            cases hv : validate W.fe.toEnv fs v with
            | error e => simp [hv] at hp
            | ok r =>
              obtain ⟨r', hr'⟩ := hl v' hsm ⟨r, hv⟩
              simp [hr']
          | sub s' | ctype s' _ =>
            obtain ⟨ca, cb, hc, hx, hsm⟩ := slotSame_node_inv rfl hslot
            simp only [fieldProblem, hc, hx] at hp ⊢
            rw [hc] at hl
            exact ih F s' ca cb _ _ (keysNodup_subSchema hnd hk rfl) hsm hl hp
          | cfgList s' it req m =>
            rcases slotSame_list_inv hslot with ⟨hc, hx⟩ | ⟨as, bs, hc, hx, hls⟩
            · simp only [fieldProblem, hc, hx] at hp ⊢
              cases req <;> simp at hp ⊢
            · simp only [fieldProblem, hc, hx] at hp ⊢
              have := isEmpty_eq_of_length_eq (listSame_length hls)
              rw [this]
              cases hh : (req && as.isEmpty) <;> simp [hh] at hp ⊢
      · exact Or.inl (by simpa using hen)

/-- a fresh configuration of `s'` can be built under a parent (any path, any next object identity) -/
def Buildable (W : World) (kf : Option String) (s' : Schema) : Prop :=
  ∀ path n, ∃ fresh n1, build W path true kf s' n = .ok (fresh, n1)

def SchemaReadyAt (W : World) (R : Schema → Prop) : SField → Prop
  | .leaf _ m => envValue W m = none
  | .sub s' => Buildable W none s' ∧ R s'
  | .ctype s' kf => Buildable W kf s' ∧ R s'
  | .cfgList s' _ _ m => envValue W m = none ∧ Buildable W none s' ∧ R s'
  | .virtual _ _ => True
  | .method => True

/-- the schema side: no field is bound to a set environment variable (`load_tree` skips such keys), and every nested schema
    can be instantiated (`load_tree` re-creates nested configurations), at every depth (to the fuel `d`) -/
def SchemaReady (W : World) : Nat → Schema → Prop
  | 0, _ => True
  | d + 1, s => ∀ k f, s.get k = some f → SchemaReadyAt W (SchemaReady W d) f

def ShapedAt (R : Schema → Cfg → Prop) (c : Cfg) (k : String) : SField → Prop
  | .leaf _ _ => ∃ v, c.get k = some (.val v)
  | .sub s' => ∃ sub, c.get k = some (.node sub) ∧ R s' sub
  | .ctype s' _ => ∃ sub, c.get k = some (.node sub) ∧ R s' sub
  | .cfgList s' _ req _ =>
      (req = false ∧ c.get k = some (.val .none)) ∨
      ∃ cs, c.get k = some (.nodes cs) ∧ (req = true → cs ≠ []) ∧ ∀ x ∈ cs, R s' x
  | .virtual _ _ => True
  | .method => True

/-- the saved configuration has dynamic fields only if its schema is dynamic, and holds, for every declared storing field, a
    slot of the right shape: a value for a leaf, a configuration for a sub-schema / config type, and for a list of
    configurations either a list (non-empty when the field is required) or `None` (only when it is not required); at every
    depth (to the fuel `d`).  Every built configuration has these slots; the two `required` conditions are what `_set_value` itself
    enforces. -/
def Shaped : Nat → Schema → Cfg → Prop
  | 0, _, _ => True
  | d + 1, s, c => (c.dyn = [] ∨ s.dynamic = true) ∧ ∀ k f, s.get k = some f → ShapedAt (Shaped d) c k f

def CodecOkAll (W : World) : Nat → Schema → Cfg → Prop := AllLeaves (CodecOk W)

/-- discharged by `leafStable_of_custom_none`, `leafStable_of_kind` -/
def StableAll (W : World) : Nat → Schema → Cfg → Prop := AllLeaves (LeafStable W)

def ValidAt (W : World) (d : Nat) (R : Schema → Cfg → Prop) : SField → Option Slot → Prop
  | .sub s', some (.node sub) => (∃ p, validateCfg W (d + 1) s' p sub = none) ∧ R s' sub
  | .ctype s' _, some (.node sub) => (∃ p, validateCfg W (d + 1) s' p sub = none) ∧ R s' sub
  | .cfgList s' _ _ _, some (.nodes cs) => ∀ x ∈ cs, (∃ p, validateCfg W (d + 1) s' p x = none) ∧ R s' x
  | _, _ => True

/-- every nested configuration (sub-configuration, config type, item of a list of configurations) validates, at every depth
    (to the fuel `d`): `load_tree` validates each of them when it re-creates it, whatever its own `validate` argument -/
def ValidDeep (W : World) : Nat → Schema → Cfg → Prop
  | 0, _, _ => True
  | d + 1, s, c => ∀ k f, s.get k = some f → ValidAt W d (ValidDeep W d) f (c.get k)

/-- If every entry decodes and is assigned without error into any configuration, leaving a `Q`-slot under its key, then the load
    without validation succeeds and every key of `t` ends on a `Q`-slot.
    `h` speaks of every configuration an entry may be assigned into, not of the one the load has reached; a key may occur
    twice in the tree, and what is found under it is what its last entry left -/
theorem loadTree_assigns (W : World) (fuel : Nat) (s : Schema) (path : String) (Q : String → Slot → Prop)
    (t : List (Val × Val)) (c : Cfg) (n : Nat)
    (h : ∀ kv ∈ t, ∃ k, kv.1 = .str k.toList ∧ ∀ c n, ∃ a sl, decodeEntry W s path c k kv.2 = some (.ok a) ∧
      (setValue W fuel s path c k a n).err = none ∧ (setValue W fuel s path c k a n).cfg.get k = some sl ∧ Q k sl) :
    (loadTree W fuel s path c t false n).err = none ∧
    ∀ k v, (Val.str k.toList, v) ∈ t → ∃ sl, (loadTree W fuel s path c t false n).cfg.get k = some sl ∧ Q k sl := by
  induction t generalizing c n with
  | nil => simp [loadTree_nil]
  | cons kv rest ih =>
    obtain ⟨key, value⟩ := kv
    obtain ⟨k, hk, hstep⟩ := h _ (List.mem_cons_self ..)
    obtain ⟨a, sl, hdec, herr, hget, hq⟩ := hstep c n
    cases hk
    obtain ⟨ih0, ih1⟩ := ih (setValue W fuel s path c k a n).cfg
      (setValue W fuel s path c k a n).next fun kv hm => h kv (List.mem_cons_of_mem _ hm)
    simp only [loadTree_cons_str, String.ofList_toList, hdec, herr]
    refine ⟨ih0, fun k' v' hm => ?_⟩
    by_cases hin : ∃ v, (Val.str k'.toList, v) ∈ rest
    · exact ih1 k' hin.choose hin.choose_spec
    · rcases List.mem_cons.1 hm with he | hm
      · cases String.toList_inj.1 (Val.str.inj (Prod.mk.inj he).1)
        exact ⟨sl, by rw [(loadTree_frame W fuel s path _ rest _ false _ (mt KeyfileLoad.mem_treeKeys.1 hin)).1, hget], hq⟩
      · exact absurd ⟨v', hm⟩ hin

theorem build_onlyStored (W : World) (path : String) (linked : Bool) (kf : Option String) (s : Schema) (n : Nat)
    (c : Cfg) (n' : Nat) (hnd : s.keysNodup = true) (h : build W path linked kf s n = .ok (c, n')) : OnlyStored s c := by
  intro k hk
  rw [build_eq] at h
  cases hl : lookupField k s.fields with
  | none => exact buildFields_frame h hl
  | some f =>
    obtain ⟨n1, o, n2, ho, hget⟩ := buildFields_get ((every_iff.1 hnd).1) h hl
    have : o.isSome = false := by
      rw [defaultSlot_isSome ho, ← hk f hl]
      cases f <;> rfl
    cases o with
    | none => exact hget
    | some _ => cases this

theorem renderField_stores {W : World} {d : Nat} {c : Cfg} {mask : Option Str} {k : String} {f : SField} {v : Val}
    (h : renderField W d c false mask k f = some (some v)) : f.stores = true := by
  cases f <;> first | rfl | (simp [renderField] at h)

/-- how `to_tree` (no virtual output, no mask) renders the slot that a configuration of the right shape holds for a declared
    field, by field class; `none`: the key is left out -/
inductive Rendered (W : World) (d : Nat) (c : Cfg) (k : String) : SField → Option Val → Prop
  | leaf {fs m v b} (hget : c.get k = some (.val v)) (hb : toBasic W.fe fs v = .ok b) : Rendered W d c k (.leaf fs m) (some b)
  | sub {s' sub t} (hget : c.get k = some (.node sub)) (hsh : Shaped d s' sub)
      (ht : toTree W d s' sub false none = some t) : Rendered W d c k (.sub s') (some (.dict t))
  | ctype {s' kf sub t} (hget : c.get k = some (.node sub)) (hsh : Shaped d s' sub)
      (ht : toTree W d s' sub false none = some t) : Rendered W d c k (.ctype s' kf) (some (.dict t))
  | unset {s' it m} (hget : c.get k = some (.val .none)) : Rendered W d c k (.cfgList s' it false m) (some .none)
  | items {s' it req m cs ts} (hget : c.get k = some (.nodes cs)) (hne : req = true → cs ≠ [])
      (hsh : ∀ x ∈ cs, Shaped d s' x) (ht : toTreeItems W d s' false none cs = some ts) :
      Rendered W d c k (.cfgList s' it req m) (some (.list ts))
  | virtual {cst hs} : Rendered W d c k (.virtual cst hs) none
  | method : Rendered W d c k .method none

theorem rendered_of_shaped {W : World} {d : Nat} {c : Cfg} {k : String} {f : SField} {r : Option Val}
    (hsh : ShapedAt (Shaped d) c k f) (hr : renderField W d c false none k f = some r) : Rendered W d c k f r := by
  cases f with
  | virtual _ _ | method =>
    simp only [renderField, Bool.false_eq_true, if_false, Option.some.injEq] at hr
    subst hr
    constructor
  | leaf fs m =>
    obtain ⟨v, hget⟩ := hsh
    simp only [renderField, hget, Option.isSome_none, Bool.and_false, Bool.false_eq_true, if_false] at hr
    split at hr <;> cases hr
    exact .leaf hget ‹_›
  | sub s' | ctype s' _ =>
    obtain ⟨sub, hget, hshs⟩ := hsh
    simp only [renderField, hget, Option.map_eq_some_iff] at hr
    obtain ⟨t, ht, rfl⟩ := hr
    constructor <;> assumption
  | cfgList s' it req m =>
    rcases hsh with ⟨rfl, hget⟩ | ⟨cs, hget, hne, hall⟩
    · simp only [renderField, hget, Option.some.injEq] at hr
      subst hr
      exact .unset hget
    · simp only [renderField, hget, Option.map_eq_some_iff] at hr
      obtain ⟨ts, ht, rfl⟩ := hr
      exact .items hget hne hall ht

/-- the statement at fuel `d`, loading without validation into a configuration `c0` that holds nothing under
    non-storing keys (its declared slots may hold anything: every one of them is overwritten) -/
def RtAt (W : World) (d : Nat) : Prop :=
  ∀ (s : Schema) (c : Cfg) (t : List (Val × Val)) (path : String) (c0 : Cfg) (n : Nat),
    s.keysNodup = true → SchemaReady W d s → Shaped d s c → CodecOkAll W d s c → StableAll W d s c → ValidDeep W d s c →
    toTree W d s c false none = some t → OnlyStored s c0 →
    (loadTree W d s path c0 t false n).err = none ∧
    SameValues W d s c (loadTree W d s path c0 t false n).cfg

/-- `RtAt` with validation on load, for a saved configuration that validates.  This is how `load_tree` loads every nested
    configuration, whatever its own `validate` argument. -/
theorem rt_validating {W : World} {d : Nat} (hrt : RtAt W d) (s : Schema) (c : Cfg) (t : List (Val × Val)) (path : String)
    (c0 : Cfg) (n : Nat) (hnd : s.keysNodup = true) (hsr : SchemaReady W d s) (hsh : Shaped d s c) (hco : CodecOkAll W d s c)
    (hst : StableAll W d s c) (hvd : ValidDeep W d s c) (hv : ∃ p, validateCfg W (d + 1) s p c = none)
    (ht : toTree W d s c false none = some t) (hc0 : OnlyStored s c0) :
    (loadTree W d s path c0 t true n).err = none ∧ SameValues W d s c (loadTree W d s path c0 t true n).cfg := by
  obtain ⟨he, hsame⟩ := hrt s c t path c0 n hnd hsr hsh hco hst hvd ht hc0
  obtain ⟨p, hp⟩ := hv
  rw [loadTree_flag W d s path _ _ true]
  simp only [he, Option.isNone_none, Bool.and_self, if_true]
  exact ⟨validate_transfer W d (d + 1) s c _ p path hnd hsame hst hp, hsame⟩

/-- `loadItems` collects the items in reverse in `acc` -/
theorem rt_items {W : World} {d : Nat} (hrt : RtAt W d) (s' : Schema) (path k : String) (hnd : s'.keysNodup = true)
    (hsr : SchemaReady W d s') (hbd : Buildable W none s') (cs : List Cfg) (tl : List Val) (pos : Nat) (acc : List Cfg) (n : Nat)
    (hall : ∀ x ∈ cs, Shaped d s' x ∧ CodecOkAll W d s' x ∧ StableAll W d s' x ∧
      (∃ p, validateCfg W (d + 1) s' p x = none) ∧ ValidDeep W d s' x)
    (h : toTreeItems W d s' false none cs = some tl) :
    ∃ cs' n', loadItems W d s' path k pos tl acc n = (.ok (acc.reverse ++ cs'), n') ∧ ListSame (SameValues W d s') cs cs' := by
  induction cs generalizing tl pos acc n with
  | nil =>
    rw [toTreeItems] at h
    cases h
    refine ⟨[], n, ?_, trivial⟩
    unfold loadItems
    simp
  | cons x rest ih =>
    obtain ⟨t, ts, hx, hr, rfl⟩ := toTreeItems_cons_eq_some.1 h
    obtain ⟨hsh, hco, hst, hv, hvd⟩ := hall x (by simp)
    obtain ⟨fresh, n1, hb⟩ := hbd (itemPath path k pos) n
    obtain ⟨he, hsame⟩ := rt_validating hrt s' x t (itemPath path k pos) fresh n1 hnd hsr hsh hco hst hvd hv hx
      (build_onlyStored W _ true none s' n fresh n1 hnd hb)
    obtain ⟨cs', n', hl, hls⟩ := ih ts (pos + 1)
      ((loadTree W d s' (itemPath path k pos) fresh t true n1).cfg :: acc)
      (loadTree W d s' (itemPath path k pos) fresh t true n1).next
      (fun y hy => hall y (by simp [hy])) hr
    refine ⟨(loadTree W d s' (itemPath path k pos) fresh t true n1).cfg :: cs', n', ?_, ⟨hsame, hls⟩⟩
    unfold loadItems
    simp only [hb, he]
    rw [hl]
    simp

/-- the entry rendered for a declared field decodes and, assigned into any configuration `c0`, is exactly one `setUser` of a slot
    that is `SlotSame` to the saved one -/
theorem rt_step {W : World} {d : Nat} (hrt : RtAt W d) (s : Schema) (path : String) (c c0 : Cfg) (n : Nat)
    (k : String) (f : SField) (v : Val)
    (hnd : s.keysNodup = true) (hk : s.get k = some f) (hsr : SchemaReadyAt W (SchemaReady W d) f)
    (hsh : ShapedAt (Shaped d) c k f) (hco : LeavesAt (CodecOk W) d f (c.get k))
    (hst : LeavesAt (LeafStable W) d f (c.get k)) (hvd : ValidAt W d (ValidDeep W d) f (c.get k))
    (hrender : renderField W d c false none k f = some (some v)) :
    ∃ a slot n', decodeEntry W s path c0 k v = some (.ok a) ∧
      setValue W (d + 1) s path c0 k a n = { cfg := c0.setUser k slot, next := n' } ∧
      SlotSame W d f (c.get k) (some slot) := by
  have hg := getField_some c0 hk
  cases rendered_of_shaped hsh hrender with
  | @leaf fs m v0 _ hget htb =>
    have henv : envValue W m = none := hsr
    rw [hget] at hco
    obtain ⟨v', hbind, hsame⟩ := hco v htb
    cases htp : toPython W.fe fs v with
    | error e => simp [htp, Except.bind] at hbind
    | ok v1 =>
      simp only [htp, Except.bind] at hbind
      refine ⟨.val v1, .val v', n, by simp [decodeEntry, hg, henv, htp], ?_, hget ▸ hsame⟩
      unfold setValue
      simp only [hg, hbind]
  | @sub s' sub t hget hshs ht | @ctype s' _ sub t hget hshs ht =>
    rw [hget] at hco hst hvd
    obtain ⟨fresh, n1, hb⟩ := hsr.1 (joinPath path k) n
    have hnd' := keysNodup_subSchema hnd hk rfl
    obtain ⟨he, hsame⟩ := rt_validating hrt s' sub t (joinPath path k) fresh n1 hnd' hsr.2 hshs hco hst hvd.2 hvd.1 ht
      (build_onlyStored W _ true _ s' n fresh n1 hnd' hb)
    refine ⟨.val (.dict t), .node (loadTree W d s' (joinPath path k) fresh t true n1).cfg,
      (loadTree W d s' (joinPath path k) fresh t true n1).next, by simp [decodeEntry, hg], ?_, hget ▸ hsame⟩
    unfold setValue
    simp only [hg]
    unfold setSub
    simp only [hb, he]
  | @unset s' it m hget =>
    -- an unset list is written as `None` and loads as the empty list
    have henv : envValue W m = none := hsr.1
    refine ⟨.val (.list []), .nodes [], n, by simp [decodeEntry, hg, henv, Val.truthy], ?_, hget ▸ trivial⟩
    unfold setValue
    simp only [hg]
    unfold loadItems
    simp
  | @items s' it req m cs tl hget hne hall ht =>
    have henv : envValue W m = none := hsr.1
    rw [hget] at hco hst hvd
    obtain ⟨cs', n', hl, hls⟩ := rt_items hrt s' path k (keysNodup_cfgList hnd hk) hsr.2.2 hsr.2.1 cs tl 0 [] n
      (fun x hx => ⟨hall x hx, hco x hx, hst x hx, hvd x hx⟩) ht
    have hemp : (req && cs'.isEmpty) = false := by
      rw [isEmpty_eq_of_length_eq (listSame_length hls)]
      cases req <;> simp <;> exact hne rfl
    refine ⟨.val (.list tl), .nodes cs', n', by simp [decodeEntry, hg, henv], ?_, hget ▸ hls⟩
    unfold setValue
    simp [hg, hl, hemp]

/-- a field that `to_tree` leaves out although it holds a slot of its shape is a virtual or instance-method field -/
theorem slotSame_of_skipped {W : World} {d : Nat} {c : Cfg} {k : String} {f : SField}
    (hsh : ShapedAt (Shaped d) c k f) (hrender : renderField W d c false none k f = some none) (x : Option Slot) :
    SlotSame W d f (c.get k) x := by
  cases rendered_of_shaped hsh hrender <;> cases c.get k <;> trivial

theorem decodeEntry_undeclared (W : World) (s : Schema) (path : String) (cur : Cfg) (k : String) (v : Val)
    (hk : s.get k = none) : decodeEntry W s path cur k v = some (.ok (.val v)) := by
  unfold decodeEntry
  cases hg : getField s cur k with
  | declared f =>
    have := getField_declared hg
    rw [hk] at this
    cases this
  | _ => rfl

theorem setValue_undeclared (W : World) (d : Nat) (s : Schema) (path : String) (cur : Cfg) (k : String) (v : Val) (n : Nat)
    (hk : s.get k = none) (hd : s.dynamic = true) :
    (setValue W (d + 1) s path cur k (.val v) n).err = none ∧
    (setValue W (d + 1) s path cur k (.val v) n).cfg.get k = some (.val v) := by
  unfold setValue
  cases hg : getField s cur k with
  | declared f =>
    have := getField_declared hg
    rw [hk] at this
    cases this
  | missing =>
    simp only [hd, Bool.not_true, Bool.false_eq_true, if_false]
    exact ⟨trivial, Cfg.get_setUser_same _ _ _⟩
  | dynamic => exact ⟨rfl, Cfg.get_setUser_same _ _ _⟩

theorem rtAt_all (W : World) (d : Nat) : RtAt W d := by
  induction d with
  | zero =>
    intro s c t path c0 n _ _ _ _ _ _ ht _
    rw [toTree] at ht
    cases ht
  | succ d ih =>
    intro s c t path c0 n hnd hsr hsh hco hst hvd ht hc0
    obtain ⟨hdyn, hsh⟩ := hsh
    obtain ⟨d', hd, hall, hmem⟩ := mem_toTree ht
    cases hd
    have hget : ∀ {k f}, (k, f) ∈ s.fields → s.get k = some f := lookupField_of_mem ((every_iff.1 hnd).1)
    -- `Q`: what is found under a key once its entry has been loaded.  `loadTree_assigns` gives `Q` under every key of `t`
    -- (declared entries by `rt_step`, dynamic ones by `setValue_undeclared`); then the three parts of `SameValues`:
    -- the dynamic values are kept, nothing else is held, the declared slots are `SlotSame`.
    let Q : String → Slot → Prop := fun k sl =>
      (∀ f, s.get k = some f → f.stores = true ∧ SlotSame W d f (c.get k) (some sl)) ∧ (s.get k = none → c.get k = some sl)
    obtain ⟨herr, hown⟩ := loadTree_assigns W (d + 1) s path Q _ c0 n (by
      intro kv hkv
      rcases (hmem kv).1 hkv with ⟨k, f, v, hm, hrf, rfl⟩ | ⟨k, hk, he⟩
      · refine ⟨k, rfl, fun c1 n1 => ?_⟩
        obtain ⟨a, slot, n', hdec, hset, hslot⟩ :=
          rt_step ih s path c c1 n1 k f v hnd (hget hm) (hsr k f (hget hm)) (hsh k f (hget hm)) (hco k f (hget hm))
            (hst k f (hget hm)) (hvd k f (hget hm)) hrf
        refine ⟨a, slot, hdec, by rw [hset], by rw [hset]; exact Cfg.get_setUser_same ..,
          And.intro (fun f' hf' => ?_) fun h0 => ?_⟩
        · cases (hget hm).symm.trans hf'
          exact ⟨renderField_stores hrf, hslot⟩
        · rw [hget hm] at h0
          cases h0
      · obtain ⟨hkn, v, hv, rfl⟩ := dynEntry_some he
        refine ⟨k, rfl, fun c1 n1 => ?_⟩
        obtain ⟨hs0, hs1⟩ := setValue_undeclared W d s path c1 k v n1 hkn (hdyn.resolve_left (List.ne_nil_of_mem hk))
        exact ⟨.val v, .val v, decodeEntry_undeclared W s path c1 k v hkn, hs0, hs1,
          And.intro (fun f hf => by rw [hkn] at hf; cases hf) fun _ => hv⟩)
    refine ⟨herr, ⟨?_, ?_⟩, fun k f hk => ?_⟩
    · intro k hm hkn v hv
      obtain ⟨sl, hsl, hq⟩ := hown k v ((hmem _).2 (Or.inr ⟨k, hm, by simp [dynEntry, hkn, hv]⟩))
      rw [hsl, ← hq.2 hkn, hv]
    · intro k hk sl hsl
      by_cases hin : ∃ v, (Val.str k.toList, v) ∈ t
      · obtain ⟨v, hv⟩ := hin
        obtain ⟨sl', hsl', hq⟩ := hown k v hv
        cases hsl'.symm.trans hsl
        cases hsk : s.get k with
        | none => exact hq.2 hsk
        | some f =>
          -- a declared field that is rendered keeps a slot
          have := (hq.1 f hsk).1
          rw [hk f hsk] at this
          cases this
      · rw [(loadTree_frame W (d + 1) s path k t c0 false n (mt KeyfileLoad.mem_treeKeys.1 hin)).1, hc0 k hk] at hsl
        cases hsl
    · obtain ⟨r, hrf⟩ := hall k f (lookupField_mem hk)
      cases r with
      | none => exact slotSame_of_skipped (hsh k f hk) hrf _
      | some v =>
        obtain ⟨sl, hsl, hq⟩ := hown k v ((hmem _).2 (Or.inl ⟨k, f, v, lookupField_mem hk, hrf, rfl⟩))
        rw [hsl]
        exact (hq.1 f hk).2

/-- **Save, then load without validation into a configuration that holds nothing under non-storing keys (a fresh one, for
    instance: `build_onlyStored`): nothing fails, and every declared persistent field, at every depth, holds the value it
    held** (up to the two normalisations of `LeafSame`, and an unset list of configurations coming back as the empty list);
    so does every dynamically added value field, and nothing else is held.  Whatever the declared slots of `c0` held is
    overwritten.

Premises, and why each is there:
* `hnd` — keys distinct at every level: `to_tree` renders every declaration in order whereas `load_tree` resolves a key to its
  *first* declaration;
* `hsr : SchemaReady` — no leaf / list-of-configurations field is bound to a set environment variable (`load_tree` skips
  those keys, so the default, not the saved value, would be found); every nested schema can be instantiated (when a build
  of `s` is at hand only the item schemas of lists of configurations need that: `schemaReady_of_build`);
* `hsh : Shaped` — `c` has dynamic fields only if its schema is dynamic (else `load_tree` raises `AttributeError`), and one slot
  of the right shape per declared storing field (a missing slot is left out by `to_tree` and the default would be found);
* `hco : CodecOkAll` — the per-leaf codec hypothesis, discharged elsewhere per field kind;
* `hvd : ValidDeep`, `hst : StableAll` — nested configurations are re-created by `load_tree` *with* validation, so each of them
  must validate, and the normal forms of its leaf values must validate too (automatic without custom validators);
* `ht` — `to_tree` returned; its fuel is the fuel of everything else, and `SameValues` at that fuel reaches every leaf. -/
theorem roundtrip_into (W : World) (fuel : Nat) (s : Schema) (c : Cfg) (t : List (Val × Val)) (path : String) (c0 : Cfg) (n : Nat)
    (hnd : s.keysNodup = true) (hsr : SchemaReady W fuel s) (hsh : Shaped fuel s c) (hco : CodecOkAll W fuel s c)
    (hst : StableAll W fuel s c) (hvd : ValidDeep W fuel s c)
    (ht : toTree W fuel s c false none = some t) (hc0 : OnlyStored s c0) :
    (loadTree W fuel s path c0 t false n).err = none ∧
    SameValues W fuel s c (loadTree W fuel s path c0 t false n).cfg :=
  rtAt_all W fuel s c t path c0 n hnd hsr hsh hco hst hvd ht hc0

/-- the same with validation on load, for a saved configuration that validates -/
theorem roundtrip_into_validating (W : World) (fuel : Nat) (s : Schema) (c : Cfg) (t : List (Val × Val)) (path : String)
    (c0 : Cfg) (n : Nat) (hnd : s.keysNodup = true) (hsr : SchemaReady W fuel s) (hsh : Shaped fuel s c)
    (hco : CodecOkAll W fuel s c) (hst : StableAll W fuel s c) (hvd : ValidDeep W fuel s c)
    (hv : ∃ p, validateCfg W (fuel + 1) s p c = none) (ht : toTree W fuel s c false none = some t) (hc0 : OnlyStored s c0) :
    (loadTree W fuel s path c0 t true n).err = none ∧
    SameValues W fuel s c (loadTree W fuel s path c0 t true n).cfg :=
  rt_validating (rtAt_all W fuel) s c t path c0 n hnd hsr hsh hco hst hvd hv ht hc0

/-- leaves of fields without a custom validator are stable: an unset list / dict field accepts the empty list / dict, and a
    secure field that accepts the empty string is not required, hence accepts `None` -/
theorem leafStable_of_custom_none (W : World) (fs : FieldSpec) (v : Val) (h : fs.custom = none) : LeafStable W fs v := by
  obtain ⟨kind, req, cust⟩ := fs
  cases h
  rintro v' hl ⟨r, hr⟩
  rcases hl with rfl | ⟨rfl, rfl, it, hk⟩ | ⟨rfl, rfl, kf, vf, hk⟩ | ⟨rfl, rfl, m, hk⟩
  · exact ⟨r, hr⟩
  · cases hk
    cases (validate_none_ok hr).1
    exact ⟨_, validate_list_nil _ it⟩
  · cases hk
    cases (validate_none_ok hr).1
    exact ⟨_, validate_dict_nil _ kf vf⟩
  · cases hk
    cases req
    · exact ⟨.none, rfl⟩
    · simp [validate, validateKind, secureRule] at hr

theorem leafStable_of_kind (W : World) (fs : FieldSpec) (v : Val)
    (h1 : ∀ it, fs.kind ≠ .list it) (h2 : ∀ kf vf, fs.kind ≠ .dict kf vf) (h3 : ∀ m, fs.kind ≠ .secure m) :
    LeafStable W fs v := by
  intro v' hl hr
  rcases hl with rfl | ⟨_, _, it, hk⟩ | ⟨_, _, kf, vf, hk⟩ | ⟨_, _, m, hk⟩
  · exact hr
  · exact absurd hk (h1 it)
  · exact absurd hk (h2 kf vf)
  · exact absurd hk (h3 m)

theorem codecOk_of_fixed {W : World} {fs : FieldSpec} {v : Val} (hb : ∀ b, toBasic W.fe fs v = .ok b → b = v)
    (hp : toPython W.fe fs v = .ok v) (hv : validate W.fe.toEnv fs v = .ok v) : CodecOk W fs v := by
  intro b h
  cases hb b h
  exact ⟨v, by simp [hp, Except.bind, hv], Or.inl rfl⟩

/-- the `…_indep` lemmas: whether `__setdefault__` / `Config(schema)` returns does not depend on the path, nor (below) on the
    parent link, the key file, the configuration written to or the next identity; for a leaf the value is the same too -/
theorem leafDefault_indep (W : World) (k : String) (f : FieldSpec) (m : LeafMeta) {path : String} {v : Val}
    (h : Defined.leafDefault W path k f m = .ok v) (path' : String) : Defined.leafDefault W path' k f m = .ok v := by
  unfold Defined.leafDefault at h ⊢
  -- the path occurs only in the errors (`fieldErr path k e`): every branch that returns does so with a value computed without it
  repeat' split at h
  all_goals first | (cases h; done) | (cases h; simp [*])

mutual
  /-- Only success is carried over (`∃ c2 …`), here and in `defaultSlot_indep`, not the configuration built: its identities
      differ. -/
  theorem build_indep (W : World) : ∀ (s : Schema) (path : String) (linked : Bool) (kf : Option String) (n : Nat) (c : Cfg) (n' : Nat),
      build W path linked kf s n = .ok (c, n') →
      ∀ (path' : String) (linked' : Bool) (kf' : Option String) (n2 : Nat), ∃ c2 n3, build W path' linked' kf' s n2 = .ok (c2, n3)
    | .mk fields dyn vs => fun path linked kf n c n' h path' linked' kf' n2 => by
      exact buildFields_indep W fields path _ _ c n' h path' _ _
  theorem buildFields_indep (W : World) : ∀ (fs : List (String × SField)) (path : String) (c : Cfg) (n : Nat) (c' : Cfg) (n' : Nat),
      buildFields W path fs c n = .ok (c', n') →
      ∀ (path' : String) (c2 : Cfg) (n2 : Nat), ∃ c3 n3, buildFields W path' fs c2 n2 = .ok (c3, n3)
    | [] => fun path c n c' n' _ path' c2 n2 => ⟨c2, n2, by simp [buildFields]⟩
    | (k, f) :: rest => fun path c n c' n' h path' c2 n2 => by
      obtain ⟨o, n1, ho, hrest⟩ := buildFields_cons_ok h
      obtain ⟨r, hr⟩ := defaultSlot_indep W f k path n _ ho path' n2
      simp only [buildFields, setDefault_eq, hr, Except.map]
      exact buildFields_indep W rest path _ n1 c' n' hrest path' _ _
  theorem defaultSlot_indep (W : World) : ∀ (f : SField) (k path : String) (n : Nat) (r : Option Slot × Nat),
      defaultSlot W path k f n = .ok r → ∀ (path' : String) (n2 : Nat), ∃ r', defaultSlot W path' k f n2 = .ok r'
    | .leaf fs m => fun k path n r h path' n2 => by
      simp only [defaultSlot, Except.map_eq_ok] at h ⊢
      obtain ⟨v, hv, _⟩ := h
      exact ⟨_, v, leafDefault_indep W k fs m hv path', rfl⟩
    | .sub s | .ctype s _ => fun k path n r h path' n2 => by
      simp only [defaultSlot, Except.map_eq_ok] at h ⊢
      obtain ⟨b, hb, _⟩ := h
      exact let ⟨c2, n3, hb2⟩ := build_indep W s _ _ _ _ _ _ hb (joinPath path' k) true _ n2; ⟨_, (c2, n3), hb2, rfl⟩
    | .cfgList s it req m => fun k path n r h path' n2 => by
      simp only [defaultSlot] at h ⊢
      split at h <;> first | (cases h; done) | exact ⟨_, rfl⟩
    | .virtual _ _ | .method => fun _ _ _ _ _ _ _ => ⟨_, rfl⟩
end

theorem setDefault_indep (W : World) : ∀ (f : SField) (k path : String) (c : Cfg) (n : Nat) (c1 : Cfg) (n1 : Nat),
    setDefault W path k f c n = .ok (c1, n1) →
    ∀ (path' : String) (c2 : Cfg) (n2 : Nat), ∃ c3 n3, setDefault W path' k f c2 n2 = .ok (c3, n3) := by
  intro f k path c n c1 n1 h path' c2 n2
  obtain ⟨o, ho, _⟩ := setDefault_ok.1 h
  obtain ⟨r, hr⟩ := defaultSlot_indep W f k path n _ ho path' n2
  exact ⟨_, _, setDefault_ok.2 ⟨r.1, hr, rfl⟩⟩

theorem buildFields_ok_mem {W : World} {path : String} {fs : List (String × SField)} {c c' : Cfg} {n n' : Nat}
    (h : buildFields W path fs c n = .ok (c', n')) {k : String} {f : SField} (hm : (k, f) ∈ fs) :
    ∃ n1 r, defaultSlot W path k f n1 = .ok r := by
  induction fs generalizing c n with
  | nil => cases hm
  | cons kf0 rest ih =>
    obtain ⟨o, n1, ho, hrest⟩ := buildFields_cons_ok h
    rcases List.mem_cons.1 hm with rfl | hm
    · exact ⟨n, _, ho⟩
    · exact ih hrest hm

def SchemaLoadableAt (W : World) (R : Schema → Prop) : SField → Prop
  | .leaf _ m => envValue W m = none
  | .sub s' => R s'
  | .ctype s' _ => R s'
  | .cfgList s' _ _ m => envValue W m = none ∧ Buildable W none s' ∧ R s'
  | .virtual _ _ => True
  | .method => True

/-- `SchemaReady` for a schema that is known to be instantiable (e.g. because a fresh configuration of it was built): no field
    is bound to a set environment variable, and the item schema of every list of configurations can be instantiated (building
    the enclosing configuration does not show that: the list starts empty); at every depth (to the fuel `d`) -/
def SchemaLoadable (W : World) : Nat → Schema → Prop
  | 0, _ => True
  | d + 1, s => ∀ k f, s.get k = some f → SchemaLoadableAt W (SchemaLoadable W d) f

theorem schemaReady_of_build (W : World) (d : Nat) (s : Schema) (path : String) (linked : Bool) (kf : Option String)
    (n : Nat) (c : Cfg) (n' : Nat) (hb : build W path linked kf s n = .ok (c, n')) (hsl : SchemaLoadable W d s) :
    SchemaReady W d s := by
  induction d generalizing s path linked kf n c n' with
  | zero => trivial
  | succ d ih =>
    intro k f hk
    have h1 : SchemaLoadableAt W (SchemaLoadable W d) f := hsl k f hk
    rw [build_eq] at hb
    obtain ⟨n1, r, hsd⟩ := buildFields_ok_mem hb (lookupField_mem hk)
    cases f with
    | virtual _ _ | method => trivial
    | leaf fs m => exact h1
    | sub s' | ctype s' _ =>
      simp only [defaultSlot, Except.map_eq_ok] at hsd
      obtain ⟨r, hb', _⟩ := hsd
      exact ⟨fun path' n2 => build_indep W s' _ _ _ _ _ _ hb' path' true _ n2, ih s' _ _ _ _ _ _ hb' h1⟩
    | cfgList s' it req m =>
      obtain ⟨fresh, n3, hb'⟩ := h1.2.1 "" 0
      exact ⟨h1.1, h1.2.1, ih s' _ _ _ _ _ _ hb' h1.2.2⟩

theorem sameValues_sub {W : World} {d : Nat} {s : Schema} {c c' : Cfg} (h : SameValues W (d + 1) s c c')
    {k : String} {s' : Schema} (hk : s.get k = some (.sub s')) :
    ∃ a b, c.get k = some (.node a) ∧ c'.get k = some (.node b) ∧ SameValues W d s' a b :=
  slotSame_node_inv rfl ((sameValues_succ_iff.1 h).2 k _ hk)

theorem sameValues_ctype {W : World} {d : Nat} {s : Schema} {c c' : Cfg} (h : SameValues W (d + 1) s c c')
    {k : String} {s' : Schema} {kf : Option String} (hk : s.get k = some (.ctype s' kf)) :
    ∃ a b, c.get k = some (.node a) ∧ c'.get k = some (.node b) ∧ SameValues W d s' a b :=
  slotSame_node_inv rfl ((sameValues_succ_iff.1 h).2 k _ hk)

theorem sameValues_items {W : World} {d : Nat} {s : Schema} {c c' : Cfg} (h : SameValues W (d + 1) s c c')
    {k : String} {s' : Schema} {it req : Bool} {m : LeafMeta} (hk : s.get k = some (.cfgList s' it req m)) :
    (c.get k = some (.val .none) ∧ c'.get k = some (.nodes [])) ∨
    ∃ as bs, c.get k = some (.nodes as) ∧ c'.get k = some (.nodes bs) ∧ ListSame (SameValues W d s') as bs :=
  slotSame_list_inv ((sameValues_succ_iff.1 h).2 k _ hk)

theorem listSame_imp {R R' : Cfg → Cfg → Prop} (hR : ∀ a b, R a b → R' a b) {as bs : List Cfg} (h : ListSame R as bs) :
    ListSame R' as bs := by
  induction as generalizing bs with
  | nil =>
    cases bs with
    | nil => trivial
    | cons _ _ => exact False.elim h
  | cons _ as ih =>
    cases bs with
    | nil => exact False.elim h
    | cons _ bs => exact ⟨hR _ _ h.1, ih h.2⟩

theorem sameValues_mono {W : World} : ∀ {d : Nat} {s : Schema} {c c' : Cfg}, SameValues W d s c c' → SameValues W (d + 1) s c c' := by
  intro d
  induction d with
  | zero => exact fun h => False.elim h
  | succ d ih =>
    intro s c c' h
    obtain ⟨hos, hsl⟩ := sameValues_succ_iff.1 h
    refine sameValues_succ_iff.2 ⟨hos, ?_⟩
    intro k f hk
    have := hsl k f hk
    cases f with
    | virtual _ _ | method => cases c.get k <;> trivial
    | leaf fs m =>
      obtain ⟨v, v', hc, hx, hl⟩ := slotSame_leaf_inv this
      rw [hc, hx]; exact hl
    | sub s' | ctype s' _ =>
      obtain ⟨a, b, hc, hx, hl⟩ := slotSame_node_inv rfl this
      rw [hc, hx]; exact ih hl
    | cfgList s' it req m =>
      rcases slotSame_list_inv this with ⟨hc, hx⟩ | ⟨as, bs, hc, hx, hl⟩
      · rw [hc, hx]; trivial
      · rw [hc, hx]; exact listSame_imp (fun _ _ => ih) hl

/-! The rest of the file is one closed instance on which all premises of `roundtrip_into_validating` hold together; it is what
    `C02.example_roundtrip` (non-vacuity) is proved from. -/

def rtWorld : World where
  environ := fun _ => none
  fe := { parseFloat := fun _ => none, fsKind := fun _ => .absent, isabs := fun _ => false, resolve := fun _ t => t,
          urlOk := fun _ => false, salt := fun _ => [], hash := fun _ b => b, utf8 := fun _ => [],
          custom := fun _ v => .ok v, encryptS := fun _ _ => none, decryptS := fun _ => none }

def rtBool : FieldSpec := .mk .bool false none
def rtItem : Schema := .mk [("n", .leaf rtBool {})] false []
def rtSub : Schema := .mk [("flag", .leaf rtBool { default := .const (.bool true) })] true []
def rtSchema : Schema :=
  .mk [("x", .leaf rtBool { default := .const (.bool true) }),
       ("tags", .leaf (.mk (.list (some rtBool)) false none) {}),
       ("sub", .sub rtSub),
       ("items", .cfgList rtItem false false { default := .const (.list []) }),
       ("v", .virtual (.int 0) false)] false []

def rtSubCfg : Cfg := .mk 1 [("flag", .val (.bool false)), ("extra", .val (.int 3))] [] ["extra"] none true
def rtItemCfg : Cfg := .mk 2 [("n", .val (.bool true))] [] [] none true
def rtCfg : Cfg :=
  .mk 0 [("x", .val (.bool false)), ("tags", .val .none), ("sub", .node rtSubCfg), ("items", .nodes [rtItemCfg])] [] [] none false

theorem forall_get_nil {P : String → SField → Prop} (dyn : Bool) (vs : List String) :
    ∀ k f, (Schema.mk [] dyn vs).get k = some f → P k f := by
  intro k f h; cases h

theorem forall_get_cons {P : String → SField → Prop} {k0 : String} {f0 : SField} {rest : List (String × SField)} {dyn : Bool} {vs : List String}
    (h0 : P k0 f0) (hr : ∀ k f, (Schema.mk rest dyn vs).get k = some f → P k f) :
    ∀ k f, (Schema.mk ((k0, f0) :: rest) dyn vs).get k = some f → P k f := by
  intro k f h
  simp only [Schema.get, Schema.fields, lookupField] at h
  split at h
  · rename_i hk; cases h; subst hk; exact h0
  · exact hr k f h

theorem rt_schemaLoadable : SchemaLoadable rtWorld 2 rtSchema := by
  refine forall_get_cons ?_ (forall_get_cons ?_ (forall_get_cons ?_ (forall_get_cons ?_ (forall_get_cons ?_ (forall_get_nil _ _)))))
  · rfl
  · rfl
  · exact forall_get_cons rfl (forall_get_nil _ _)
  · exact ⟨rfl, fun _ _ => ⟨_, _, rfl⟩, forall_get_cons rfl (forall_get_nil _ _)⟩
  · trivial

theorem rt_shaped : Shaped 2 rtSchema rtCfg := by
  refine ⟨Or.inl rfl, forall_get_cons ?_ (forall_get_cons ?_ (forall_get_cons ?_ (forall_get_cons ?_ (forall_get_cons ?_ (forall_get_nil _ _)))))⟩
  · exact ⟨_, rfl⟩
  · exact ⟨_, rfl⟩
  · exact ⟨rtSubCfg, rfl, Or.inr rfl, forall_get_cons ⟨_, rfl⟩ (forall_get_nil _ _)⟩
  · exact Or.inr ⟨[rtItemCfg], rfl, fun _ => by simp, fun x hx => List.mem_singleton.1 hx ▸
      ⟨Or.inl rfl, forall_get_cons ⟨_, rfl⟩ (forall_get_nil _ _)⟩⟩
  · trivial

theorem rt_codec_bool (b : Bool) : CodecOk rtWorld rtBool (.bool b) :=
  codecOk_of_fixed (fun _ h => (Except.ok.inj h).symm) rfl rfl

theorem rt_codecOk : CodecOkAll rtWorld 2 rtSchema rtCfg := by
  refine forall_get_cons ?_ (forall_get_cons ?_ (forall_get_cons ?_ (forall_get_cons ?_ (forall_get_cons ?_ (forall_get_nil _ _)))))
  · exact rt_codec_bool false
  · -- an unset typed list is written as `None` and comes back as `[]`
    intro v hv
    cases hv
    exact ⟨.list [], rfl, Or.inr (Or.inl ⟨rfl, rfl, _, rfl⟩)⟩
  · exact forall_get_cons (rt_codec_bool false) (forall_get_nil _ _)
  · exact fun x hx => List.mem_singleton.1 hx ▸ forall_get_cons (rt_codec_bool true) (forall_get_nil _ _)
  · trivial

theorem rt_stable : StableAll rtWorld 2 rtSchema rtCfg := by
  refine forall_get_cons ?_ (forall_get_cons ?_ (forall_get_cons ?_ (forall_get_cons ?_ (forall_get_cons ?_ (forall_get_nil _ _)))))
  · exact leafStable_of_custom_none _ _ _ rfl
  · exact leafStable_of_custom_none _ _ _ rfl
  · exact forall_get_cons (leafStable_of_custom_none _ _ _ rfl) (forall_get_nil _ _)
  · exact fun x hx => List.mem_singleton.1 hx ▸ forall_get_cons (leafStable_of_custom_none _ _ _ rfl) (forall_get_nil _ _)
  · trivial

theorem rt_valid_sub (p : String) : validateCfg rtWorld 2 rtSub p rtSubCfg = none := by
  simp [validateCfg, featureEnabled, validateFields, fieldProblem, rtSub, rtSubCfg, Schema.fields, Schema.validators, Cfg.get,
    Cfg.slots, getSlot, rtBool, validate, validateKind, boolRule]

theorem rt_valid_item (p : String) : validateCfg rtWorld 2 rtItem p rtItemCfg = none := by
  simp [validateCfg, featureEnabled, validateFields, fieldProblem, rtItem, rtItemCfg, Schema.fields, Schema.validators, Cfg.get,
    Cfg.slots, getSlot, rtBool, validate, validateKind, boolRule]

theorem rt_validDeep : ValidDeep rtWorld 2 rtSchema rtCfg := by
  refine forall_get_cons ?_ (forall_get_cons ?_ (forall_get_cons ?_ (forall_get_cons ?_ (forall_get_cons ?_ (forall_get_nil _ _)))))
  · trivial
  · trivial
  · exact ⟨⟨"", rt_valid_sub ""⟩, forall_get_cons trivial (forall_get_nil _ _)⟩
  · exact fun x hx => List.mem_singleton.1 hx ▸ ⟨⟨"", rt_valid_item ""⟩, forall_get_cons trivial (forall_get_nil _ _)⟩
  · trivial

theorem rt_toTree_sub : toTree rtWorld 1 rtSub rtSubCfg false none =
    some [(.str "flag".toList, .bool false), (.str "extra".toList, .int 3)] := by
  simp [toTree, toTreeFields, renderField, rtSub, rtSubCfg, Schema.fields, Schema.get, lookupField, Cfg.get, Cfg.slots, Cfg.dyn,
    getSlot, rtBool, toBasic, toBasicKind]

theorem rt_toTree_item : toTree rtWorld 1 rtItem rtItemCfg false none = some [(.str "n".toList, .bool true)] := by
  simp [toTree, toTreeFields, renderField, rtItem, rtItemCfg, Schema.fields, Cfg.get, Cfg.slots, Cfg.dyn, getSlot, rtBool, toBasic,
    toBasicKind]

/-- the nested trees are evaluated first and used as they are: one `simp` over the whole closed term costs eight times as much -/
theorem rt_toTree : ∃ t, toTree rtWorld 2 rtSchema rtCfg false none = some t := by
  simp [toTree, toTreeFields, renderField, toTreeItems, rt_toTree_sub, rt_toTree_item, rtSchema, rtCfg, Schema.fields, Cfg.get,
    Cfg.slots, Cfg.dyn, getSlot, rtBool, toBasic, toBasicKind]

theorem rt_build : ∃ c0 n1, build rtWorld "" false none rtSchema 0 = .ok (c0, n1) := ⟨_, _, rfl⟩

theorem rt_valid : ∃ p, validateCfg rtWorld 3 rtSchema p rtCfg = none := by
  refine ⟨"", ?_⟩
  simp [validateCfg, featureEnabled, validateFields, fieldProblem, rt_valid_sub, rtSchema, rtCfg, Schema.fields, Schema.validators,
    Cfg.get, Cfg.slots, getSlot, rtBool, validate, validateKind, boolRule]

end Cinco.Config
