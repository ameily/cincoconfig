import Cinco.Stub.Gen
/-
  Helper lemmas for C20: how `readFrom` / `hasSlash` (Python's reading of a parameter list) act on the pieces
  `get_method_annotation` assembles.
-/
namespace Cinco.C20
open Cinco Cinco.Stub

-- here, so that Lean derives their equations once and not again in every proof that unfolds one of them
attribute [local simp] hasSlash readFrom

theorem readFrom_map_argItem (bs st : Bool) (ps : List Param) (rest : List Item) :
    readFrom bs st (ps.map argItem ++ rest) =
      ps.map (fun p => (p.name, if bs then PKind.posOnly else if st then .kwOnly else .pos)) ++
        readFrom bs st rest := by
  induction ps with
  | nil => rfl
  | cons p r ih => simp [argItem, ih]

theorem hasSlash_map_argItem (ps : List Param) (rest : List Item) :
    hasSlash (ps.map argItem ++ rest) = hasSlash rest := by
  induction ps with
  | nil => rfl
  | cons p r ih => simp [argItem, ih]

theorem hasSlash_tail (m : Method) : hasSlash (starPart m ++ kwPart m) = false := by
  have hk : hasSlash (kwPart m) = false := by unfold kwPart; cases m.varkw <;> rfl
  unfold starPart
  cases hko : m.kwonly with
  | nil => cases m.varargs <;> simp [hk]
  | cons k ks =>
    cases m.varargs <;>
      simp only [List.cons_append, hasSlash, hasSlash_map_argItem, hk]

theorem readFrom_tail (m : Method) :
    readFrom false false (starPart m ++ kwPart m) =
      (match m.varargs with | some v => [(v, PKind.varArgs)] | none => []) ++
      m.kwonly.map (fun p => (p.name, PKind.kwOnly)) ++
      (match m.varkw with | some k => [(k, PKind.varKw)] | none => []) := by
  have hk : ∀ st, readFrom false st (kwPart m) =
      (match m.varkw with | some k => [(k, PKind.varKw)] | none => []) := by
    intro st; unfold kwPart; cases m.varkw <;> rfl
  unfold starPart
  cases hko : m.kwonly with
  | nil => cases m.varargs <;> simp [hk]
  | cons k ks =>
    cases m.varargs <;>
      simp only [List.cons_append, readFrom, readFrom_map_argItem, hk] <;> simp

theorem readKinds_insertSlash (ps : List Param) (rest : List Item) (h : hasSlash rest = false) :
    readKinds (insertSlash ps.length (ps.map argItem ++ rest)) =
      ps.map (fun p => (p.name, PKind.posOnly)) ++ readFrom false false rest := by
  cases ps with
  | nil => simp [insertSlash, readKinds, h]
  | cons p ps =>
    have hn : ((p :: ps).map argItem).length = (p :: ps).length := List.length_map _
    have hs : hasSlash ((p :: ps).map argItem ++ Item.slash :: rest) = true := by rw [hasSlash_map_argItem]; rfl
    rw [insertSlash, if_neg (by simp), List.take_left' hn, List.drop_left' hn, readKinds, hs,
      readFrom_map_argItem]
    rfl

theorem readKinds_baseItems (m : Method) : readKinds (insertSlash m.posonly.length (baseItems m)) = declared m := by
  rw [baseItems, List.map_append, List.append_assoc, List.append_assoc,
    readKinds_insertSlash _ _ (by rw [hasSlash_map_argItem, hasSlash_tail]), readFrom_map_argItem, readFrom_tail]
  simp only [declared, List.append_assoc]
  rfl

theorem readKinds_setFirstSelf (n : Nat) (p : Param) (l : List Item) :
    readKinds (insertSlash n (setFirstSelf (argItem p :: l))) = renameFirst (readKinds (insertSlash n (argItem p :: l))) := by
  cases n <;> simp [insertSlash, setFirstSelf, readKinds, renameFirst, argItem]

end Cinco.C20
