import Cinco.Proofs.Roundtrip
import Cinco.Proofs.LeafCodec
/-
  Leaf-level companions of the round-trip theorem (Proofs/Roundtrip.lean), from the codec of one declaration
  (Proofs/LeafCodec.lean).

  What `to_tree` writes is plain data (`toTree_plain`), because `to_basic` of a `Typed` declaration does (`toBasic_plain`).
  The per-leaf codec hypothesis `CodecOk` of the round-trip theorem, discharged: `codecOk_of_supported` adds to `exact_codec`
  the two normalisations allowed at top level, the four exceptions (`Canon`) are each shown to be one, and
  `codecOkAll_of_supported` lifts it to configurations.  The file ends with the counterexamples for the four exceptions and one
  closed instance (`lf…`) on which the premises of both parts hold; `C02.example_leaves` applies the two theorems to it.
-/

namespace Cinco.Config
open Cinco Cinco.Field

/-- the clause of `AllCfgs` for one declared field and the slot held for it (a clause with a parameter: see `Config.SlotSame`) -/
def CfgsAt (R : Schema → Cfg → Prop) : SField → Option Slot → Prop
  | .sub s', some (.node sub) => R s' sub
  | .ctype s' _, some (.node sub) => R s' sub
  | .cfgList s' _ _ _, some (.nodes cs) => ∀ x ∈ cs, R s' x
  | _, _ => True

/-- `Q s c` for the configuration and every configuration nested in it (sub-configurations, config types, items of lists
    of configurations), at every depth (to the fuel `d`) -/
def AllCfgs (Q : Schema → Cfg → Prop) : Nat → Schema → Cfg → Prop
  | 0, _, _ => True
  | d + 1, s, c => Q s c ∧ ∀ k f, s.get k = some f → CfgsAt (AllCfgs Q d) f (c.get k)

/-- the dynamically added value fields of `c` hold plain data (`to_tree` writes them as they are) -/
def DynPlain (s : Schema) (c : Cfg) : Prop :=
  ∀ k ∈ c.dyn, s.get k = none → ∀ v, c.get k = some (.val v) → v.plain = true

theorem dynPlain_of_nil {s : Schema} {c : Cfg} (h : c.dyn = []) : DynPlain s c := by
  intro k hk
  rw [h] at hk
  cases hk

/-- what `toTree_plain` asks of a held leaf value -/
def PlainLeaf (E : CodecEnv) (fs : FieldSpec) (v : Val) : Prop :=
  Typed fs = true ∧ (v = .none ∨ ∃ v0, validate E.toEnv fs v0 = .ok v)

/-- the statement of `toTree_plain` at one fuel, as the induction on the nesting depth carries it (`plainAt_all`) -/
def PlainAt (W : World) (d : Nat) : Prop :=
  ∀ (s : Schema) (c : Cfg) (t : List (Val × Val)), s.keysNodup = true → Shaped d s c →
    AllLeaves (PlainLeaf W.fe) d s c → AllCfgs DynPlain d s c → toTree W d s c false none = some t →
    Val.plainKvs t = true

theorem toTreeItems_plain {W : World} {d : Nat} (hrec : PlainAt W d) (s' : Schema) (hnd : s'.keysNodup = true)
    (cs : List Cfg) (ts : List Val)
    (hall : ∀ x ∈ cs, Shaped d s' x ∧ AllLeaves (PlainLeaf W.fe) d s' x ∧ AllCfgs DynPlain d s' x)
    (h : toTreeItems W d s' false none cs = some ts) : Val.plainList ts = true := by
  induction cs generalizing ts with
  | nil =>
    rw [toTreeItems] at h
    cases h
    rfl
  | cons x rest ih =>
    obtain ⟨t, ts', hx, hr, rfl⟩ := toTreeItems_cons_eq_some.1 h
    obtain ⟨h1, h2, h3⟩ := hall x (by simp)
    simp only [Val.plainList, Val.plain, Bool.and_eq_true]
    exact ⟨hrec s' x t hnd h1 h2 h3 hx, ih ts' (fun y hy => hall y (List.mem_cons_of_mem _ hy)) hr⟩

theorem renderField_plain {W : World} {d : Nat} (hE : ∀ m s r, W.fe.encryptS m s = some r → r.plain = true)
    (hrec : PlainAt W d) {s : Schema} {c : Cfg} {k : String} {f : SField} {v : Val}
    (hnd : s.keysNodup = true) (hk : s.get k = some f) (hsh : ShapedAt (Shaped d) c k f)
    (hl : LeavesAt (PlainLeaf W.fe) d f (c.get k)) (hq : CfgsAt (AllCfgs DynPlain d) f (c.get k))
    (hr : renderField W d c false none k f = some (some v)) : v.plain = true := by
  cases rendered_of_shaped hsh hr with
  | @leaf fs m v0 _ hget htb =>
    rw [hget] at hl
    exact toBasic_plain W.fe hE fs hl.1 v0 hl.2 _ htb
  | @sub s' sub t hget hshs ht | @ctype s' _ sub t hget hshs ht =>
    rw [hget] at hl hq
    exact hrec s' sub t (keysNodup_subSchema hnd hk rfl) hshs hl hq ht
  | unset => rfl
  | @items s' it req m cs ts hget _ hall ht =>
    rw [hget] at hl hq
    exact toTreeItems_plain hrec s' (keysNodup_cfgList hnd hk) cs ts (fun x hx => ⟨hall x hx, hl x hx, hq x hx⟩) ht

theorem plainAt_all (W : World) (hE : ∀ m s r, W.fe.encryptS m s = some r → r.plain = true) (d : Nat) : PlainAt W d := by
  induction d with
  | zero => exact fun s c t _ _ _ _ ht => by rw [toTree] at ht; cases ht
  | succ d ih =>
    intro s c t hnd hsh hl hq ht
    obtain ⟨d', hd, _, hmem⟩ := mem_toTree ht
    cases hd
    rw [Val.plainKvs_iff]
    intro kv hkv
    rcases (hmem kv).1 hkv with ⟨k, f, v, hm, hr, rfl⟩ | ⟨k, hk, he⟩
    · have hk := lookupField_of_mem ((every_iff.1 hnd).1) hm
      exact ⟨rfl, renderField_plain hE ih hnd hk (hsh.2 k f hk) (allLeaves_succ_iff.1 hl k f hk)
        (hq.2 k f hk) hr⟩
    · obtain ⟨hn, v, hv, rfl⟩ := dynEntry_some he
      exact ⟨rfl, hq.1 k hk hn v hv⟩

/-- **What `to_tree` writes is plain data** (no virtual output, no mask).  Premises: keys distinct at every level (`to_tree`
    renders every declaration, the premises below speak of the first one of each key); `Shaped` (one slot of the right shape
    per declared storing field); every held leaf, at every depth, is of a `Typed` declaration and is a validation result of
    its field or `None`; the dynamically added fields, at every depth, hold plain data (`dynPlain_of_nil`: in particular when
    there are none); encryption returns plain data. -/
theorem toTree_plain (W : World) (hE : ∀ m s r, W.fe.encryptS m s = some r → r.plain = true)
    (fuel : Nat) (s : Schema) (c : Cfg) (t : List (Val × Val))
    (hnd : s.keysNodup = true) (hsh : Shaped fuel s c) (hl : AllLeaves (PlainLeaf W.fe) fuel s c)
    (hdyn : AllCfgs DynPlain fuel s c) (ht : toTree W fuel s c false none = some t) :
    (Val.dict t).plain = true := by
  exact plainAt_all W hE fuel s c t hnd hsh hl hdyn ht

theorem codecOk_of_exact {W : World} {fs : FieldSpec} {v : Val} (h : Exact W.fe fs v) : CodecOk W fs v :=
  fun b hb => ⟨v, h b hb, Or.inl rfl⟩

/-- the empty secret: written as `None`, comes back as `None` -/
theorem codecOk_secure_empty (W : World) (hN : W.fe.decryptS .none = some none) {m : String} {r : Bool} {c : Option String}
    (hfix : validate W.fe.toEnv (.mk (.secure m) r c) (.str []) = .ok (.str [])) :
    CodecOk W (.mk (.secure m) r c) (.str []) := by
  intro b hb
  cases hb
  have hr : r = false := by
    rcases secure_accepted_shape hfix with h | ⟨s, hs, hr⟩
    · cases h
    · cases hs
      simpa using hr
  subst hr
  refine ⟨.none, ?_, Or.inr (Or.inr (Or.inr ⟨rfl, rfl, m, rfl⟩))⟩
  simp only [toPython, toPythonKind, hN, Except.bind]
  exact validate_none_eq _ _ false c

/-- an unset typed list: written as `None`, comes back as `[]` -/
theorem codecOk_list_none (W : World) {item : Option FieldSpec} {r : Bool} (hu : untypedItem item = false)
    (hfix : validate W.fe.toEnv (.mk (.list item) r none) .none = .ok .none) : CodecOk W (.mk (.list item) r none) .none := by
  intro b hb
  cases (validate_none_ok hfix).1
  cases hb
  refine ⟨.list [], ?_, Or.inr (Or.inl ⟨rfl, rfl, item, rfl⟩)⟩
  rw [toPython_list_none hu]
  exact validate_list_nil _ item

/-- an unset typed dict: written as `None`, comes back as `{}` -/
theorem codecOk_dict_none (W : World) {kf vf : Option FieldSpec} {r : Bool} (hnn : (kf.isNone && vf.isNone) = false)
    (hfix : validate W.fe.toEnv (.mk (.dict kf vf) r none) .none = .ok .none) : CodecOk W (.mk (.dict kf vf) r none) .none := by
  intro b hb
  cases (validate_none_ok hfix).1
  cases hb
  refine ⟨.dict [], ?_, Or.inr (Or.inr (Or.inl ⟨rfl, rfl, kf, vf, rfl⟩))⟩
  rw [toPython_dict_none hnn]
  exact validate_dict_nil _ kf vf

/-- **The per-leaf codec hypothesis of the round-trip theorem, discharged**: for every `Supported` declaration and every held
    value that is a fixed point of its validation (in particular `None` under a field that is not required) and satisfies
    `TopCanon` (see `Canon` for the four exceptions, each of which is a counterexample), under the two laws of the
    encryption environment: decryption inverts encryption of non-empty secrets (`hS`), and `None` decrypts to `None` (`hN`). -/
theorem codecOk_of_supported (W : World)
    (hS : ∀ m s r, s ≠ [] → W.fe.encryptS m s = some r → W.fe.decryptS r = some (some s))
    (hN : W.fe.decryptS .none = some none)
    (fs : FieldSpec) (hsup : Supported fs = true) (v : Val) (hfix : validate W.fe.toEnv fs v = .ok v) (hcan : TopCanon fs v) :
    CodecOk W fs v := by
  rcases hcan with hcan | ⟨hv, htc⟩ | ⟨hv, m, hm⟩
  · exact codecOk_of_exact (exact_codec W.fe hS hN fs v hsup hfix hcan)
  · obtain ⟨k, r, c⟩ := fs
    subst hv
    simp only [FieldSpec.kind] at htc
    have hc : c = none := by
      simp only [Supported, htc, Bool.and_eq_true] at hsup
      simpa using hsup.1
    subst hc
    cases k <;> simp only [Kind.typedContainer, Bool.not_eq_true', Bool.false_eq_true] at htc
    · exact codecOk_list_none W htc hfix
    · exact codecOk_dict_none W htc hfix
  · obtain ⟨k, r, c⟩ := fs
    subst hm
    subst hv
    exact codecOk_secure_empty W hN hfix

/-- the same without any condition on the held value beyond being a fixed point, for `Flat` declarations -/
theorem codecOk_of_flat (W : World)
    (hS : ∀ m s r, s ≠ [] → W.fe.encryptS m s = some r → W.fe.decryptS r = some (some s))
    (hN : W.fe.decryptS .none = some none)
    (fs : FieldSpec) (hflat : Flat fs = true) (v : Val) (hfix : validate W.fe.toEnv fs v = .ok v) : CodecOk W fs v :=
  codecOk_of_supported W hS hN fs (flat_supported hflat) v hfix (flat_topCanon hflat v)

/-- …and for a held value that is a *validation result* of a `Flat` declaration within the idempotence guard `IdemOk`
    (validation results are fixed points by `C05.validate_idem`, which needs `EnvOk` of `os.path`) -/
theorem codecOk_of_flat_result (W : World)
    (hS : ∀ m s r, s ≠ [] → W.fe.encryptS m s = some r → W.fe.decryptS r = some (some s))
    (hN : W.fe.decryptS .none = some none) (hEnv : EnvOk W.fe.toEnv)
    (fs : FieldSpec) (hflat : Flat fs = true) (hidem : IdemOk fs = true) (v0 v : Val)
    (h : validate W.fe.toEnv fs v0 = .ok v) : CodecOk W fs v :=
  codecOk_of_flat W hS hN fs hflat v (C05.validate_idem W.fe.toEnv hEnv fs v0 v hidem h)

theorem codecOk_scalar (W : World) {k : Kind} (hk : k.idCoded = true) (r : Bool) (c : Option String) (v : Val)
    (hfix : validate W.fe.toEnv (.mk k r c) v = .ok v) : CodecOk W (.mk k r c) v :=
  codecOk_of_exact (exact_idCoded hk hfix)

theorem codecOk_bytes (W : World) (enc : Enc) (r : Bool) (c : Option String) (v : Val)
    (hfix : validate W.fe.toEnv (.mk (.bytes enc) r c) v = .ok v) : CodecOk W (.mk (.bytes enc) r c) v :=
  codecOk_of_exact (exact_bytes hfix)

theorem codecOk_challenge (W : World) (alg : String) (r : Bool) (c : Option String) (v : Val)
    (hfix : validate W.fe.toEnv (.mk (.challenge alg) r c) v = .ok v) (hown : ∀ s d a, v = .digest s d a → a = alg) :
    CodecOk W (.mk (.challenge alg) r c) v :=
  codecOk_of_exact (exact_challenge hfix hown)

theorem codecOk_secure (W : World)
    (hS : ∀ m s r, s ≠ [] → W.fe.encryptS m s = some r → W.fe.decryptS r = some (some s))
    (hN : W.fe.decryptS .none = some none) (m : String) (r : Bool) (c : Option String) (v : Val)
    (hfix : validate W.fe.toEnv (.mk (.secure m) r c) v = .ok v) : CodecOk W (.mk (.secure m) r c) v :=
  codecOk_of_flat W hS hN _ rfl v hfix

theorem codecOk_list (W : World)
    (hS : ∀ m s r, s ≠ [] → W.fe.encryptS m s = some r → W.fe.decryptS r = some (some s))
    (hN : W.fe.decryptS .none = some none) (item : Option FieldSpec) (r : Bool) (v : Val)
    (hu : untypedItem item = false) (hsup : SupportedOpt item = true)
    (hfix : validate W.fe.toEnv (.mk (.list item) r none) v = .ok v)
    (hcan : ∀ xs, v = .list xs → ∀ x ∈ xs, CanonOpt item x) : CodecOk W (.mk (.list item) r none) v := by
  refine codecOk_of_supported W hS hN _ (by simp [Supported, SupportedKind, hsup]) v hfix ?_
  by_cases hv : v = .none
  · exact Or.inr (Or.inl ⟨hv, by simp [FieldSpec.kind, Kind.typedContainer, hu]⟩)
  · exact Or.inl (Or.inr ⟨hu, hv, hcan⟩)

theorem codecOk_dict (W : World)
    (hS : ∀ m s r, s ≠ [] → W.fe.encryptS m s = some r → W.fe.decryptS r = some (some s))
    (hN : W.fe.decryptS .none = some none) (kf vf : Option FieldSpec) (r : Bool) (v : Val)
    (hnn : (kf.isNone && vf.isNone) = false) (hkf : SupportedOpt kf = true) (hvf : SupportedOpt vf = true)
    (hfix : validate W.fe.toEnv (.mk (.dict kf vf) r none) v = .ok v)
    (hcan : ∀ kvs, v = .dict kvs → ∀ kv ∈ kvs, CanonOpt kf kv.1 ∧ CanonOpt vf kv.2) : CodecOk W (.mk (.dict kf vf) r none) v := by
  refine codecOk_of_supported W hS hN _ (by simp [Supported, SupportedKind, hkf, hvf]) v hfix ?_
  by_cases hv : v = .none
  · exact Or.inr (Or.inl ⟨hv, by simp only [FieldSpec.kind, Kind.typedContainer, hnn]; rfl⟩)
  · exact Or.inl (Or.inr ⟨hv, hcan⟩)

theorem codecOk_list_untyped (W : World) (item : Option FieldSpec) (r : Bool) (c : Option String) (v : Val)
    (hu : untypedItem item = true) (hfix : validate W.fe.toEnv (.mk (.list item) r c) v = .ok v) (hnt : ∀ xs, v ≠ .tuple xs) :
    CodecOk W (.mk (.list item) r c) v :=
  codecOk_of_exact (exact_list_untyped hu hfix hnt)

theorem codecOk_dict_untyped (W : World) (r : Bool) (c : Option String) (v : Val)
    (hfix : validate W.fe.toEnv (.mk (.dict none none) r c) v = .ok v) : CodecOk W (.mk (.dict none none) r c) v :=
  codecOk_of_exact (exact_dict_untyped rfl hfix)

/-- what `codecOkAll_of_supported` asks of a held leaf value: a fixed point of its field's validation that is `TopCanon`.
    Not `Config.Held` (`None` or a validation result, the invariant of C01): a validation result is a fixed point only within
    the idempotence guard (`codecOk_of_flat_result` makes that step for `Flat` declarations), and `Held` says nothing like
    `TopCanon`. -/
def HeldOk (W : World) (fs : FieldSpec) (v : Val) : Prop :=
  validate W.fe.toEnv fs v = .ok v ∧ TopCanon fs v

/-- **`CodecOkAll`, discharged**: every leaf declaration of the schema, at every depth, is `Supported`; every held leaf
    value, at every depth, is a fixed point of its field's validation and satisfies `TopCanon`. -/
theorem codecOkAll_of_supported (W : World)
    (hS : ∀ m s r, s ≠ [] → W.fe.encryptS m s = some r → W.fe.decryptS r = some (some s))
    (hN : W.fe.decryptS .none = some none) (d : Nat) (s : Schema) (c : Cfg)
    (hsup : SchemaLeaves (fun fs => Supported fs = true) d s) (hheld : AllLeaves (HeldOk W) d s c) : CodecOkAll W d s c :=
  allLeaves_imp (fun fs v hq hp => codecOk_of_supported W hS hN fs hq v hp.1 hp.2) d s c hsup hheld

theorem codecOkAll_of_flat (W : World)
    (hS : ∀ m s r, s ≠ [] → W.fe.encryptS m s = some r → W.fe.decryptS r = some (some s))
    (hN : W.fe.decryptS .none = some none) (d : Nat) (s : Schema) (c : Cfg)
    (hflat : SchemaLeaves (fun fs => Flat fs = true) d s)
    (hheld : AllLeaves (fun fs v => validate W.fe.toEnv fs v = .ok v) d s c) : CodecOkAll W d s c :=
  allLeaves_imp (fun fs v hq hp => codecOk_of_flat W hS hN fs hq v hp) d s c hflat hheld

/-- a world whose "encryption" is the identity on text: it satisfies `hE`, `hS` and `hN` -/
def lfWorld : World where
  environ := fun _ => none
  fe := { parseFloat := fun _ => none, fsKind := fun _ => .absent, isabs := fun _ => false, resolve := fun _ t => t,
          urlOk := fun _ => false, salt := fun _ => [], hash := fun _ b => b, utf8 := fun _ => [],
          custom := fun _ v => .ok v,
          encryptS := fun _ s => some (.str s),
          decryptS := fun v => match v with
            | .none => some none
            | .str s => some (some s)
            | _ => none }

theorem lfWorld_plain : ∀ m s r, lfWorld.fe.encryptS m s = some r → r.plain = true := by
  intro m s r h
  simp only [lfWorld, Option.some.injEq] at h
  subst h
  rfl

theorem lfWorld_dec_enc : ∀ m s r, s ≠ [] → lfWorld.fe.encryptS m s = some r → lfWorld.fe.decryptS r = some (some s) := by
  intro m s r _ h
  simp only [lfWorld, Option.some.injEq] at h
  subst h
  rfl

theorem lfWorld_dec_none : lfWorld.fe.decryptS .none = some none := rfl

/-- `h2`, `h3`: `None` and the empty secret are the two values `LeafSame` lets change -/
theorem not_codecOk {W : World} {fs : FieldSpec} {v b v' : Val} (hb : toBasic W.fe fs v = .ok b)
    (hv : (toPython W.fe fs b).bind (validate W.fe.toEnv fs) = .ok v') (h1 : v' ≠ v) (h2 : v ≠ .none) (h3 : v ≠ .str []) :
    ¬ CodecOk W fs v := by
  intro h
  obtain ⟨w, hw, hl⟩ := h b hb
  cases hv.symm.trans hw
  rcases hl with h | ⟨h, _⟩ | ⟨h, _⟩ | ⟨h, _⟩
  · exact h1 h
  · exact h2 h
  · exact h2 h
  · exact h3 h

/-- a digest labelled with a foreign algorithm is accepted by a `ChallengeField` and kept as it is, but is written without
    its label and comes back labelled with the field's algorithm (finding F23) -/
theorem codecOk_false_foreign_digest :
    validate lfWorld.fe.toEnv (.mk (.challenge "md5") false none) (.digest [] [] "sha1") = .ok (.digest [] [] "sha1") ∧
    ¬ CodecOk lfWorld (.mk (.challenge "md5") false none) (.digest [] [] "sha1") :=
  ⟨rfl, not_codecOk (b := digestToBasic [] []) (v' := .digest [] [] "md5") rfl rfl (by decide) (by decide) (by decide)⟩

/-- `None` inside a list of (not required) lists is a fixed point of validation, but comes back as `[]` -/
theorem codecOk_false_none_item :
    let fs : FieldSpec := .mk (.list (some (.mk (.list (some (.mk (.int none none) false none))) false none))) false none
    validate lfWorld.fe.toEnv fs (.list [.none]) = .ok (.list [.none]) ∧ ¬ CodecOk lfWorld fs (.list [.none]) :=
  ⟨rfl, not_codecOk (b := .list [.none]) (v' := .list [.list []]) rfl rfl (by decide) (by decide) (by decide)⟩

/-- the empty secret inside a list of (not required) secrets is a fixed point of validation, but comes back as `None` -/
theorem codecOk_false_empty_secret_item :
    let fs : FieldSpec := .mk (.list (some (.mk (.secure "aes") false none))) false none
    validate lfWorld.fe.toEnv fs (.list [.str []]) = .ok (.list [.str []]) ∧ ¬ CodecOk lfWorld fs (.list [.str []]) :=
  ⟨rfl, not_codecOk (b := .list [.none]) (v' := .list [.none]) rfl rfl (by decide) (by decide) (by decide)⟩

/-- a tuple held by an untyped list field is a fixed point of validation, but is written as a list and comes back as a list -/
theorem codecOk_false_tuple :
    validate lfWorld.fe.toEnv (.mk (.list none) false none) (.tuple [.int 1]) = .ok (.tuple [.int 1]) ∧
    ¬ CodecOk lfWorld (.mk (.list none) false none) (.tuple [.int 1]) :=
  ⟨rfl, not_codecOk (b := .list [.int 1]) (v' := .list [.int 1]) rfl rfl (by decide) (by decide) (by decide)⟩

def lfStr : FieldSpec := .mk (.string { strip := .ws }) true none
def lfBytes : FieldSpec := .mk (.bytes .base64) false none
def lfInts : FieldSpec := .mk (.list (some (.mk (.int none none) true none))) false none
def lfBool : FieldSpec := .mk .bool false none
def lfSecret : FieldSpec := .mk (.secure "aes") false none

def lfSub : Schema := .mk [("flag", .leaf lfBool {}), ("secret", .leaf lfSecret { sensitive := true })] false []
def lfSchema : Schema :=
  .mk [("name", .leaf lfStr {}),
       ("blob", .leaf lfBytes {}),
       ("nums", .leaf lfInts {}),
       ("sub", .sub lfSub),
       ("v", .virtual (.int 7) false)] false []

def lfSubCfg : Cfg := .mk 1 [("flag", .val (.bool true)), ("secret", .val (.str "pw".toList))] [] [] none true
def lfCfg : Cfg :=
  .mk 0 [("name", .val (.str "ab".toList)), ("blob", .val (.bytes [1, 2, 255])), ("nums", .val (.list [.int 1, .int 2])),
         ("sub", .node lfSubCfg)] [] [] none false

def lfTree : List (Val × Val) :=
  [(.str "name".toList, .str "ab".toList),
   (.str "blob".toList, .str "AQL/".toList),
   (.str "nums".toList, .list [.int 1, .int 2]),
   (.str "sub".toList, .dict [(.str "flag".toList, .bool true), (.str "secret".toList, .str "pw".toList)])]

theorem lf_toTree : toTree lfWorld 2 lfSchema lfCfg false none = some lfTree := by
  have h1 : toBasic lfWorld.fe lfStr (.str ['a', 'b']) = .ok (.str ['a', 'b']) := rfl
  have h2 : toBasic lfWorld.fe lfBytes (.bytes [1, 2, 255]) = .ok (.str ['A', 'Q', 'L', '/']) := by decide +kernel
  have h3 : toBasic lfWorld.fe lfInts (.list [.int 1, .int 2]) = .ok (.list [.int 1, .int 2]) := rfl
  have h4 : toBasic lfWorld.fe lfBool (.bool true) = .ok (.bool true) := rfl
  have h5 : toBasic lfWorld.fe lfSecret (.str ['p', 'w']) = .ok (.str ['p', 'w']) := rfl
  simp [toTree, toTreeFields, renderField, lfSchema, lfCfg, lfSub, lfSubCfg, Schema.fields, Cfg.get, Cfg.slots, Cfg.dyn,
    getSlot, h1, h2, h3, h4, h5, lfTree]

theorem lf_shaped : Shaped 2 lfSchema lfCfg := by
  refine ⟨Or.inl rfl, forall_get_cons ?_ (forall_get_cons ?_ (forall_get_cons ?_ (forall_get_cons ?_ (forall_get_cons ?_ (forall_get_nil _ _)))))⟩
  · exact ⟨_, rfl⟩
  · exact ⟨_, rfl⟩
  · exact ⟨_, rfl⟩
  · exact ⟨lfSubCfg, rfl, Or.inl rfl, forall_get_cons ⟨_, rfl⟩ (forall_get_cons ⟨_, rfl⟩ (forall_get_nil _ _))⟩
  · trivial

/-- `"ab"` is what the string field (which strips white space) returns for `" ab "`, the list of ints what the list field
    returns for the tuple `("1", 2.0)` -/
theorem lf_plainLeaves : AllLeaves (PlainLeaf lfWorld.fe) 2 lfSchema lfCfg := by
  refine forall_get_cons ?_ (forall_get_cons ?_ (forall_get_cons ?_ (forall_get_cons ?_ (forall_get_cons ?_ (forall_get_nil _ _)))))
  · exact ⟨rfl, Or.inr ⟨.str " ab ".toList, rfl⟩⟩
  · exact ⟨rfl, Or.inr ⟨.bytes [1, 2, 255], rfl⟩⟩
  · exact ⟨rfl, Or.inr ⟨.tuple [.str "1".toList, .flt (.dy 2 0)], rfl⟩⟩
  · exact forall_get_cons ⟨rfl, Or.inr ⟨.int 5, rfl⟩⟩
      (forall_get_cons ⟨rfl, Or.inr ⟨.str "pw".toList, rfl⟩⟩ (forall_get_nil _ _))
  · trivial

theorem lf_dynPlain : AllCfgs DynPlain 2 lfSchema lfCfg := by
  refine ⟨dynPlain_of_nil rfl, forall_get_cons ?_ (forall_get_cons ?_ (forall_get_cons ?_ (forall_get_cons ?_ (forall_get_cons ?_ (forall_get_nil _ _)))))⟩
  · trivial
  · trivial
  · trivial
  · exact ⟨dynPlain_of_nil rfl, forall_get_cons trivial (forall_get_cons trivial (forall_get_nil _ _))⟩
  · trivial

theorem lf_supported : SchemaLeaves (fun fs => Supported fs = true) 2 lfSchema := by
  refine forall_get_cons ?_ (forall_get_cons ?_ (forall_get_cons ?_ (forall_get_cons ?_ (forall_get_cons ?_ (forall_get_nil _ _)))))
  · rfl
  · rfl
  · rfl
  · exact forall_get_cons rfl (forall_get_cons rfl (forall_get_nil _ _))
  · trivial

theorem lf_heldOk : AllLeaves (HeldOk lfWorld) 2 lfSchema lfCfg := by
  refine forall_get_cons ?_ (forall_get_cons ?_ (forall_get_cons ?_ (forall_get_cons ?_ (forall_get_cons ?_ (forall_get_nil _ _)))))
  · exact ⟨rfl, flat_topCanon rfl _⟩
  · exact ⟨rfl, flat_topCanon rfl _⟩
  · refine ⟨rfl, Or.inl ?_⟩
    exact Or.inr ⟨rfl, by simp, fun _ _ _ _ => trivial⟩
  · exact forall_get_cons ⟨rfl, flat_topCanon rfl _⟩
      (forall_get_cons ⟨rfl, Or.inl (by simp [lfSecret, Canon, CanonKind])⟩ (forall_get_nil _ _))
  · trivial

example : (Val.dict lfTree).plain = true := rfl

end Cinco.Config
