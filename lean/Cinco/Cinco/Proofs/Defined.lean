import Cinco.Proofs.Cfg
/-
  The operations on the leaf keys of one configuration level as closed equations of the model (they mention no abstract
  machine): what a leaf's `__setdefault__` computes, which keys `Config(schema)` marks and fills, `reset_value` and one
  `load_tree` entry on a declared leaf key.
-/
namespace Cinco.Config.Defined
open Cinco Cinco.Field Cinco.Config

theorem leafDefault_plain (W : World) (path k : String) (fs : FieldSpec) (m : LeafMeta)
    (hk : match fs.kind with | .list _ => False | .dict _ _ => False | .challenge _ => False | _ => True)
    (henv : envValue W m = none) : leafDefault W path k fs m = .ok m.default.value := by
  unfold leafDefault
  split
  -- the four branches of `leafDefault`: list, dict, challenge (excluded by `hk`), and `Field.__setdefault__` for the rest
  case h_4 => simp only [henv]
  all_goals rename_i h; simp only [h] at hk

theorem envValue_of_env_none (W : World) (m : LeafMeta) (h : m.env = none) : envValue W m = none := by
  simp [envValue, h]

def okB {ε α : Type} : Except ε α → Bool
  | .ok _ => true
  | .error _ => false

/-- **`__setdefault__` of a field bound to a set variable**: for every field class that consults the environment
    (`usesBaseSetdefault`: everything but typed lists and dicts, finding F10), a variable whose text validates to a value
    other than `None` makes that value the default. -/
theorem leafDefault_env (W : World) (path k : String) (fs : FieldSpec) (m : LeafMeta) (text : Str) (v : Val)
    (hk : usesBaseSetdefault fs.kind = true) (henv : envValue W m = some text)
    (hv : validate W.fe.toEnv fs (.str text) = .ok v) (hnn : v ≠ .none) : leafDefault W path k fs m = .ok v := by
  unfold leafDefault
  split
  -- `h_3`: `ChallengeField.__setdefault__`; `h_4`: `Field.__setdefault__`; list and dict are excluded by `hk`
  case h_3 => simp only [henv, hv]
  case h_4 =>
    -- `hnn` (taken from the context by `simp`'s discharger) rules out the branch that falls back to the declared default
    simp only [henv, hv]
  all_goals rename_i h; simp [h, usesBaseSetdefault] at hk

theorem leafDefault_env_invalid (W : World) (path k : String) (fs : FieldSpec) (m : LeafMeta) (text : Str) (e : Field.Err)
    (hk : usesBaseSetdefault fs.kind = true) (henv : envValue W m = some text)
    (hv : validate W.fe.toEnv fs (.str text) = .error e) : leafDefault W path k fs m = .error (fieldErr path k e) := by
  unfold leafDefault
  split
  -- `h_3`: `ChallengeField.__setdefault__`; `h_4`: `Field.__setdefault__`; list and dict are excluded by `hk`
  case h_3 | h_4 => simp only [henv, hv]
  all_goals rename_i h; simp [h, usesBaseSetdefault] at hk

/-- SOME declaration of `k` in the list is of a storing class — not only the first one, which `lookupField` reads: `build` runs the
    `__setdefault__` of every declaration (`C12b.build_defined_exact` holds for duplicate keys because of this) -/
def storesKey (k : String) (fs : List (String × SField)) : Bool := fs.any (fun p => storesD p.2 && k == p.1)

theorem storesKey_of_lookup {fs : List (String × SField)} {k : String} {f : SField}
    (h : lookupField k fs = some f) (hs : storesD f = true) : storesKey k fs = true := by
  induction fs with
  | nil => simp [lookupField] at h
  | cons p rest ih =>
    obtain ⟨k', f'⟩ := p
    simp only [lookupField] at h
    by_cases hk : k' = k
    · simp only [hk, if_true, Option.some.injEq] at h
      subst h; subst hk
      simp [storesKey, hs]
    · simp only [hk, if_false] at h
      have := ih h
      simp only [storesKey, List.any_cons] at this ⊢
      simp [this]

theorem buildFields_marks {W : World} {path : String} (k : String) {fs : List (String × SField)} {c c' : Cfg} {n n' : Nat}
    (h : buildFields W path fs c n = .ok (c', n')) :
    c'.defaults.contains k = (c.defaults.contains k || storesKey k fs) ∧
    (c'.get k).isSome = ((c.get k).isSome || storesKey k fs) := by
  induction fs generalizing c n with
  | nil =>
    cases h
    simp [storesKey]
  | cons p rest ih =>
    obtain ⟨o, n1, ho, hrest⟩ := buildFields_cons_ok h
    rw [(ih hrest).1, (ih hrest).2, Cfg.defaults_contains_storeDefault, Cfg.isSome_get_storeDefault, defaultSlot_isSome ho]
    simp [storesKey, Bool.or_assoc]

theorem buildFields_get_leaf {W : World} {path k : String} {fs : List (String × SField)} {c c' : Cfg} {n n' : Nat}
    {f : FieldSpec} {m : LeafMeta} (hnd : nodupKeys fs = true) (h : buildFields W path fs c n = .ok (c', n'))
    (hl : lookupField k fs = some (.leaf f m)) : ∃ v, leafDefault W path k f m = .ok v ∧ c'.get k = some (.val v) := by
  obtain ⟨n1, o, n2, ho, hget⟩ := buildFields_get hnd h hl
  simp only [defaultSlot, Except.map_eq_ok] at ho
  obtain ⟨v, hv, ho⟩ := ho
  cases ho
  exact ⟨v, hv, hget⟩

theorem resetValue_leaf_eq (W : World) (fuel : Nat) (s : Schema) (c : Cfg) (k : String) (n : Nat)
    {fs : FieldSpec} {m : LeafMeta} (hk : '.' ∉ k.toList) (hf : s.get k = some (.leaf fs m)) :
    resetValue W (fuel + 1) s c k.toList n =
      (match leafDefault W "" k fs m with
       | .ok v => { cfg := c.setDefault k (.val v), next := n }
       | .error e => { cfg := c, err := some e, next := n }) := by
  rw [resetValue_key W fuel s c n hk hf, setDefault_leaf]
  cases leafDefault W "" k fs m <;> rfl

theorem loadTree_cons_leaf (W : World) (fuel : Nat) (s : Schema) (path : String) (c : Cfg) (ks : List Char) (value : Val)
    (rest : List (Val × Val)) (dv : Bool) (n : Nat) {fs : FieldSpec} {m : LeafMeta}
    (hf : s.get (String.ofList ks) = some (.leaf fs m)) :
    loadTree W (fuel + 1) s path c ((.str ks, value) :: rest) dv n =
      (if (envValue W m).isSome then loadTree W (fuel + 1) s path c rest dv n
       else match toPython W.fe fs value with
         | .error e => { cfg := c, err := some (fieldErr path (String.ofList ks) e), next := n }
         | .ok v =>
           (match validate W.fe.toEnv fs v with
            | .error e => { cfg := c, err := some (fieldErr path (String.ofList ks) e), next := n }
            | .ok v' => loadTree W (fuel + 1) s path (c.setUser (String.ofList ks) (.val v')) rest dv n)) := by
  rw [loadTree_cons_str]
  unfold decodeEntry
  simp only [getField_some c hf]
  by_cases he : (envValue W m).isSome = true
  · simp [he]
  · simp only [he, Bool.false_eq_true, if_false]
    cases hp : toPython W.fe fs value with
    | error e => rfl
    | ok v =>
      simp only [setValue_leaf W fuel s path c _ _ n hf, Arg.value]
      cases hv : validate W.fe.toEnv fs v with
      | error e => rfl
      | ok v' => rfl

end Cinco.Config.Defined
