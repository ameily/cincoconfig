import Cinco.Proofs.Complete
/-
  Idempotence of validation: a result of `validate` satisfies the declaration (Sound.lean), and what satisfies the
  declaration is accepted as it is (Complete.lean).  There are two guards: `IdemOk`, the coarser one, under which C05 and
  C01 state idempotence (network and start-directory fields only without any string option), and `CompleteOk`, which
  admits more (`C05c.validate_idem_of_complete` is idempotence under it); `completeOk_of_idemOk` shows that the first
  lies inside the second.
-/
namespace Cinco.Field
open Cinco Cinco.Num Cinco.Str

/-- facts about the modelled string and network primitives: the argument `P` of `validate_idem`, `validateOpt_idem` and
    `validateItems_idem` below, which do not need it — `prims` proves it, and soundness and completeness use the three facts
    directly -/
structure Prims : Prop where
  strRule_idem : ∀ (o : StrOpts) (req : Bool) (v : Val) (t : Str), strRule o req v = .ok t → strRule o req (.str t) = .ok t
  printAddr_of_parseAddr : ∀ (s : Str) (n : Nat), Net.parseAddr s = some n → Net.printAddr n = s
  parseNet_canonical : ∀ (s : Str) (n p : Nat), Net.parseNet s = some (n, p) → Net.parseNet (Net.printNet n p) = some (n, p)

mutual
  /-- the declarations for which idempotence is claimed: no custom validator anywhere; an IPv4NetworkField, and a
      FilenameField with a start directory, only without StringField options (findings F22 / F25) -/
  def IdemOk : FieldSpec → Bool
    | .mk k _ c => c.isNone && IdemOkKind k
  def IdemOkOpt : Option FieldSpec → Bool
    | none => true
    | some f => IdemOk f
  def IdemOkKind : Kind → Bool
    | .ipv4net o _ _ => o.plain
    | .filename o _ sd => o.plain || (match sd with | none => true | some d => d.isEmpty)
    | .list item => IdemOkOpt item
    | .dict k v => IdemOkOpt k && IdemOkOpt v
    | _ => true
end

theorem completeOkKind_step (k : Kind)
    (ih : ∀ o : Option FieldSpec, o.toList ⊆ k.subs → IdemOkOpt o = true → CompleteOkOpt o = true)
    (h : IdemOkKind k = true) : CompleteOkKind k = true := by
  cases k with
  | ipv4net o _ _ => exact StrOpts.eq_of_plain h ▸ rfl
  | filename o _ sd => exact h
  | list item => exact Bool.or_eq_true_iff.2 (Or.inr (ih item (List.Subset.refl _) h))
  | dict kf vf =>
    simp only [IdemOkKind, CompleteOkKind, Bool.and_eq_true] at h ⊢
    exact ⟨ih kf (List.subset_append_left _ _) h.1, ih vf (List.subset_append_right _ _) h.2⟩
  | _ => rfl

theorem completeOk_of_idemOk : ∀ (f : FieldSpec), IdemOk f = true → CompleteOk f = true := by
  refine FieldSpec.inductOpt (Q := fun o => IdemOkOpt o = true → CompleteOkOpt o = true) (fun _ => rfl) (fun _ h => h)
    fun k _ c ih h => ?_
  simp only [IdemOk, CompleteOk, Bool.and_eq_true] at h ⊢
  exact ⟨h.1, completeOkKind_step k ih h.2⟩

theorem completeOkOpt_of_idemOkOpt : ∀ (o : Option FieldSpec), IdemOkOpt o = true → CompleteOkOpt o = true
  | none, _ => rfl
  | some f, h => completeOk_of_idemOk f h

theorem completeOkKind_of_idemOkKind : ∀ (k : Kind), IdemOkKind k = true → CompleteOkKind k = true :=
  fun k => completeOkKind_step k fun o _ => completeOkOpt_of_idemOkOpt o

theorem prims : Prims :=
  ⟨strRule_idem, fun s n h => (Net.printAddr_of_parseAddr s n h).1, Net.parseNet_canonical⟩

theorem validateKind_idem (E : Env) (hE : EnvOk E) (k : Kind) (req : Bool) (v v' : Val) (hk : IdemOkKind k = true)
    (h : validateKind E k req v = .ok v') : validateKind E k req v' = .ok v' :=
  validateKind_complete E k req v' (completeOkKind_of_idemOkKind k hk) (validateKind_sound E hE k req v v' h)

/-- **Validation is idempotent**: validating an accepted result again returns the same value and never rejects it. -/
theorem validate_idem (P : Prims) (E : Env) (hE : EnvOk E) :
    ∀ (f : FieldSpec) (v v' : Val), IdemOk f = true → validate E f v = .ok v' → validate E f v' = .ok v' :=
  fun f v v' hf h => validate_complete E f v' (completeOk_of_idemOk f hf) (validate_sound E hE f v v' h)

theorem validateOpt_idem (P : Prims) (E : Env) (hE : EnvOk E) :
    ∀ (o : Option FieldSpec) (v v' : Val), IdemOkOpt o = true →
      validateOpt E o v = .ok v' → validateOpt E o v' = .ok v' :=
  fun o v v' ho h => validateOpt_complete E o v' (completeOkOpt_of_idemOkOpt o ho) (validateOpt_sound E hE o v v' h)

theorem validateItems_idem (P : Prims) (E : Env) (hE : EnvOk E) :
    ∀ (o : Option FieldSpec) (xs ys : List Val), IdemOkOpt o = true →
      validateItems E o xs = some (.ok ys) → validateItems E o ys = some (.ok ys) := by
  intro o xs ys ho h
  rw [validateItems_eq] at h ⊢
  split at h
  · cases h
  next hu =>
    rw [if_neg hu]
    exact congrArg some (mapR_idem (fun a b => validateOpt_idem P E hE o a b ho) (Option.some.inj h))

end Cinco.Field
