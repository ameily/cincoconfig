import Cinco.Config.Ops
import Cinco.Proofs.FieldLemmas
/-
  Lemmas of the definitions of Config/Schema.lean and Config/Ops.lean that mention no invariant: what each operation writes,
  and where the written slot comes from.  The proofs about `_set_value` ask through `Assigned` (the configuration as it was, or
  one `setUser`) and `Storable` (the slot stored, by what the schema declares at the key); the other operations are
  sequences or paths of such writes, each with its induction principle.
-/
namespace Cinco.Config
open Cinco Cinco.Field

theorem getSlot_setSlot (k k' : String) (s : Slot) (l : List (String × Slot)) :
    getSlot k' (setSlot k s l) = if k' = k then some s else getSlot k' l := by
  induction l with
  | nil => by_cases h : k = k' <;> simp [setSlot, getSlot, h, eq_comm]
  | cons p tl ih =>
    obtain ⟨a, b⟩ := p
    by_cases h1 : a = k
    · subst h1
      by_cases h2 : a = k'
      · simp [setSlot, getSlot, h2]
      · simp [setSlot, getSlot, h2, Ne.symm h2]
    · by_cases h2 : a = k'
      · subst h2; simp [setSlot, getSlot, h1]
      · simp [setSlot, getSlot, h1, h2, ih]

theorem setSlot_of_get {k : String} {s : Slot} {l : List (String × Slot)} (h : getSlot k l = some s) : setSlot k s l = l := by
  induction l with
  | nil => simp [getSlot] at h
  | cons p tl ih =>
    obtain ⟨a, b⟩ := p
    by_cases h1 : a = k
    · subst h1
      simp [getSlot] at h
      subst h
      simp [setSlot]
    · simp only [getSlot, h1, if_false] at h
      simp [setSlot, h1, ih h]

theorem Cfg.eta (c : Cfg) : Cfg.mk c.oid c.slots c.defaults c.dyn c.keyfile c.linked = c := by
  cases c; rfl

theorem Cfg.set_of_get {c : Cfg} {k : String} {s : Slot} (h : c.get k = some s) : c.set k s = c := by
  cases c with
  | mk o sl d dy kf li =>
    simp only [Cfg.get, Cfg.slots] at h
    simp [Cfg.set, Cfg.withSlots, Cfg.slots, Cfg.oid, Cfg.defaults, Cfg.dyn, Cfg.keyfile, Cfg.linked, setSlot_of_get h]

theorem Cfg.get_set (c : Cfg) (k k' : String) (s : Slot) :
    (c.set k s).get k' = if k' = k then some s else c.get k' := getSlot_setSlot k k' s c.slots

theorem Cfg.get_setUser (c : Cfg) (k k' : String) (s : Slot) :
    (c.setUser k s).get k' = if k' = k then some s else c.get k' := getSlot_setSlot k k' s c.slots

theorem Cfg.get_setDefault (c : Cfg) (k k' : String) (s : Slot) :
    (c.setDefault k s).get k' = if k' = k then some s else c.get k' := getSlot_setSlot k k' s c.slots

theorem Cfg.get_set_same (c : Cfg) (k : String) (s : Slot) : (c.set k s).get k = some s := by
  rw [Cfg.get_set, if_pos rfl]

theorem Cfg.get_set_other (c : Cfg) {k k' : String} (h : k' ≠ k) (s : Slot) : (c.set k s).get k' = c.get k' := by
  rw [Cfg.get_set, if_neg h]

theorem Cfg.get_setUser_same (c : Cfg) (k : String) (s : Slot) : (c.setUser k s).get k = some s := by
  rw [Cfg.get_setUser, if_pos rfl]

theorem Cfg.get_setUser_other (c : Cfg) {k k' : String} (h : k' ≠ k) (s : Slot) : (c.setUser k s).get k' = c.get k' := by
  rw [Cfg.get_setUser, if_neg h]

theorem Cfg.get_setDefault_same (c : Cfg) (k : String) (s : Slot) : (c.setDefault k s).get k = some s := by
  rw [Cfg.get_setDefault, if_pos rfl]

theorem Cfg.get_setDefault_other (c : Cfg) {k k' : String} (h : k' ≠ k) (s : Slot) : (c.setDefault k s).get k' = c.get k' := by
  rw [Cfg.get_setDefault, if_neg h]

theorem Cfg.defaults_setUser (c : Cfg) (k : String) (s : Slot) : (c.setUser k s).defaults = c.defaults.filter (· != k) := by
  simp [Cfg.setUser, Cfg.withDefaults, Cfg.defaults]

theorem Cfg.defaults_contains_setDefault (c : Cfg) (k k' : String) (sl : Slot) :
    (c.setDefault k sl).defaults.contains k' = (c.defaults.contains k' || k' == k) := by
  show (if c.defaults.contains k then c.defaults else c.defaults ++ [k]).contains k' = _
  split
  next h =>
    by_cases hk : k' = k
    · subst hk; rw [h]; rfl
    · rw [beq_false_of_ne hk, Bool.or_false]
  · rw [List.contains_append, List.contains_cons, List.contains_nil, Bool.or_false]

theorem Cfg.defaults_contains_setUser (c : Cfg) (k k' : String) (sl : Slot) :
    (c.setUser k sl).defaults.contains k' = (c.defaults.contains k' && k' != k) := by
  rw [Cfg.defaults_setUser]
  by_cases hk : k' = k
  · subst hk; simp
  · simp [hk]

@[simp] theorem Cfg.get_withKeyfile (c : Cfg) (l : Option String) (k : String) : (c.withKeyfile l).get k = c.get k := rfl
@[simp] theorem Cfg.get_withDyn (c : Cfg) (d : List String) (k : String) : (c.withDyn d).get k = c.get k := rfl
@[simp] theorem Cfg.get_withLinked (c : Cfg) (l : Bool) (k : String) : (c.withLinked l).get k = c.get k := rfl
@[simp] theorem Cfg.get_withDefaults (c : Cfg) (d : List String) (k : String) : (c.withDefaults d).get k = c.get k := rfl

theorem partitionDot_append (k rest : List Char) (h : '.' ∉ k) : partitionDot (k ++ '.' :: rest) = (k, some rest) := by
  induction k with
  | nil => simp [partitionDot]
  | cons x xs ih =>
    have hx : (x == '.') = false := by
      simp only [beq_eq_false_iff_ne, ne_eq]; intro e; subst e; exact h (by simp)
    simp [partitionDot, hx, ih fun hm => h (by simp [hm])]

theorem subSchema_some {f : SField} {s' : Schema} {kf : Option String} (h : subSchema f = some (s', kf)) :
    f = .sub s' ∨ f = .ctype s' kf := by
  cases f <;> simp [subSchema] at h
  · exact Or.inl (by rw [h.1])
  · exact Or.inr (by rw [h.1, h.2])

theorem getField_declared {s : Schema} {c : Cfg} {k : String} {f : SField} (h : getField s c k = .declared f) :
    s.get k = some f := by
  unfold getField at h
  cases hg : s.get k with
  | none => simp only [hg] at h; split at h <;> cases h
  | some g => simp only [hg] at h; cases h; rfl

theorem getField_not_declared {s : Schema} {c : Cfg} {k : String} (h : ∀ f, getField s c k ≠ .declared f) :
    s.get k = none := by
  unfold getField at h
  cases hg : s.get k with
  | none => rfl
  | some g => simp only [hg] at h; exact absurd rfl (h g)

theorem getField_some {s : Schema} {k : String} {f : SField} (c : Cfg) (hk : s.get k = some f) :
    getField s c k = .declared f := by simp only [getField, hk]

/-- the results an assignment to key `k` of `c` can have: `c` is as it was (it raised, or returned without storing: a virtual
    field with a setter), or it did exactly one `setUser` at `k` of a slot satisfying `P` — on `c` itself or on `c` with `k`
    registered as a dynamic field — and returned -/
inductive Assigned (P : Slot → Prop) (c : Cfg) (k : String) : Out → Prop
  | kept (e : Option CErr) (n : Nat) : Assigned P c k { cfg := c, err := e, next := n }
  | stored (c' : Cfg) (sl : Slot) (n : Nat) (hc : c' = c ∨ c' = c.withDyn (c.dyn ++ [k])) (hsl : P sl) :
      Assigned P c k { cfg := c'.setUser k sl, next := n }

section
variable {P : Slot → Prop} {c : Cfg} {k : String} {o : Out}

theorem Assigned.mono {Q : Slot → Prop} (h : Assigned P c k o) (hpq : ∀ sl, P sl → Q sl) :
    Assigned Q c k o := by
  cases h with
  | kept e n => exact .kept e n
  | stored c' sl n hc hsl => exact .stored c' sl n hc (hpq sl hsl)

theorem Assigned.unchanged (h : Assigned P c k o) (he : o.err ≠ none) :
    o.cfg = c := by
  cases h with
  | kept e n => rfl
  | stored c' sl n hc hsl => exact absurd rfl he

theorem Assigned.get_cases (h : Assigned P c k o) (k' : String) :
    o.cfg.get k' = c.get k' ∨ k' = k ∧ ∃ sl, o.cfg.get k' = some sl ∧ P sl := by
  cases h with
  | kept e n => exact .inl rfl
  | stored c' sl n hc hsl =>
    rw [Cfg.get_setUser]
    split
    next hk => exact .inr ⟨hk, sl, rfl, hsl⟩
    next => rcases hc with rfl | rfl <;> exact .inl rfl

theorem Assigned.get_other {k' : String} (h : Assigned P c k o) (hne : k' ≠ k) :
    o.cfg.get k' = c.get k' :=
  (h.get_cases k').resolve_right fun h' => hne h'.1

theorem Assigned.defaults_other {k' : String} (h : Assigned P c k o) (hne : k' ≠ k) :
    o.cfg.defaults.contains k' = c.defaults.contains k' := by
  cases h with
  | kept e n => rfl
  | stored c' sl n hc hsl =>
    rw [Cfg.defaults_contains_setUser, bne_iff_ne.2 hne, Bool.and_true]
    rcases hc with rfl | rfl <;> rfl

theorem Assigned.keyfile (h : Assigned P c k o) :
    o.cfg.keyfile = c.keyfile := by
  cases h with
  | kept e n => rfl
  | stored c' sl n hc hsl => rcases hc with rfl | rfl <;> rfl

end

theorem loadTree_nil (W : World) (fuel : Nat) (s : Schema) (path : String) (c : Cfg) (dv : Bool) (n : Nat) :
    loadTree W fuel s path c [] dv n =
      if dv then { cfg := c, err := validateCfg W (fuel + 1) s path c, next := n } else { cfg := c, next := n } := by
  unfold loadTree; rfl

theorem loadTree_cons_str (W : World) (fuel : Nat) (s : Schema) (path : String) (c : Cfg) (ks : List Char) (value : Val)
    (rest : List (Val × Val)) (dv : Bool) (n : Nat) :
    loadTree W fuel s path c ((.str ks, value) :: rest) dv n =
      (match decodeEntry W s path c (String.ofList ks) value with
       | none => loadTree W fuel s path c rest dv n
       | some (.error e) => { cfg := c, err := some e, next := n }
       | some (.ok a) =>
         let o := setValue W fuel s path c (String.ofList ks) a n
         (match o.err with
          | some e => { cfg := o.cfg, err := some e, next := o.next }
          | none => loadTree W fuel s path o.cfg rest dv o.next)) := by
  conv => lhs; unfold loadTree
  rfl

theorem loadTree_cons_nonstr (W : World) (fuel : Nat) (s : Schema) (path : String) (c : Cfg) (key value : Val)
    (rest : List (Val × Val)) (dv : Bool) (n : Nat) (hk : ∀ ks, key ≠ .str ks) :
    loadTree W fuel s path c ((key, value) :: rest) dv n = { cfg := c, err := some (.raw "unmodelled-key"), next := n } := by
  unfold loadTree
  cases key <;> first | rfl | exact absurd rfl (hk _)

theorem _root_.Cinco.Val.str_or_not (key : Val) : (∃ ks, key = .str ks) ∨ ∀ ks, key ≠ .str ks := by
  cases key with
  | str ks => exact .inl ⟨ks, rfl⟩
  | _ => exact .inr fun _ h => by cases h

theorem decodeEntry_val {W : World} {s : Schema} {path : String} {c : Cfg} {k : String} {value : Val} {a : Arg}
    (h : decodeEntry W s path c k value = some (.ok a)) : ∃ v, a = .val v := by
  unfold decodeEntry at h
  -- every branch of `decodeEntry` that returns `some (.ok _)` wraps a plain value in `.val`; the others are not `some (.ok _)`
  repeat' split at h
  all_goals first | (cases h; done) | (simp only [Option.some.injEq, Except.ok.injEq] at h; exact ⟨_, h.symm⟩)

end Cinco.Config

namespace Cinco.Config.KeyfileLoad
open Cinco Cinco.Field Cinco.Config

-- `treeKeys` names the slots a load can reach: every load lemma below speaks of it, not only those about key files
def keyName : Val → Option String
  | .str ks => some (String.ofList ks)
  | _ => none

/-- the (string) keys of a map, as `load_tree` reads them: LITERALLY — a dotted key `"a.b"` is the one key `"a.b"`, not a
    path (an undeclared one raises `AttributeError`, or on a dynamic schema becomes a new field of that name) -/
def treeKeys (t : List (Val × Val)) : List String := t.filterMap (fun kv => keyName kv.1)

theorem treeKeys_cons_str (ks : List Char) (v : Val) (t : List (Val × Val)) :
    treeKeys ((.str ks, v) :: t) = String.ofList ks :: treeKeys t := by
  simp [treeKeys, keyName]

theorem mem_treeKeys {k : String} {t : List (Val × Val)} : k ∈ treeKeys t ↔ ∃ v, (Val.str k.toList, v) ∈ t := by
  unfold treeKeys
  rw [List.mem_filterMap]
  constructor
  · rintro ⟨⟨key, v⟩, hm, hk⟩
    cases key <;> cases hk
    exact ⟨v, by rwa [String.toList_ofList]⟩
  · rintro ⟨v, hm⟩
    exact ⟨_, hm, congrArg some (String.ofList_toList)⟩

end Cinco.Config.KeyfileLoad

namespace Cinco.Config
open Cinco Cinco.Field

/-- **`load_tree` is a sequence of `_set_value`s of plain values** under keys of the tree: what every such assignment keeps,
    the load keeps — returning or raising midway. -/
theorem loadTree_induction {P : Cfg → Prop} (W : World) (fuel : Nat) (s : Schema) (path : String) (t : List (Val × Val))
    (h : ∀ c k v n, k ∈ KeyfileLoad.treeKeys t → P c → P (setValue W fuel s path c k (.val v) n).cfg)
    (c : Cfg) (dv : Bool) (n : Nat) (hc : P c) : P (loadTree W fuel s path c t dv n).cfg := by
  induction t generalizing c n with
  | nil => rw [loadTree_nil]; split <;> exact hc
  | cons e rest ih =>
    obtain ⟨key, value⟩ := e
    rcases Val.str_or_not key with ⟨ks, rfl⟩ | hne
    · have ih := ih fun c k v n hm => h c k v n (List.mem_cons_of_mem _ hm)
      rw [loadTree_cons_str]
      cases hdec : decodeEntry W s path c (String.ofList ks) value with
      | none => exact ih c n hc
      | some r =>
        cases r with
        | error e => exact hc
        | ok a =>
          obtain ⟨v, rfl⟩ := decodeEntry_val hdec
          have h1 := h c _ v n List.mem_cons_self hc
          simp only
          split
          · exact h1
          · exact ih _ _ h1
    · rw [loadTree_cons_nonstr W fuel s path c key value rest dv n hne]
      exact hc

theorem loadTree_flag (W : World) (fuel : Nat) (s : Schema) (path : String) (t : List (Val × Val)) (c : Cfg) (dv : Bool) (n : Nat) :
    loadTree W fuel s path c t dv n =
      (let o := loadTree W fuel s path c t false n
       if dv && o.err.isNone then { o with err := validateCfg W (fuel + 1) s path o.cfg } else o) := by
  induction t generalizing c n with
  | nil => cases dv <;> simp [loadTree_nil]
  | cons e rest ih =>
    obtain ⟨key, value⟩ := e
    rcases Val.str_or_not key with ⟨ks, rfl⟩ | hne
    · simp only [loadTree_cons_str]
      cases decodeEntry W s path c (String.ofList ks) value with
      | none => exact ih c n
      | some r =>
        cases r with
        | error e => simp
        | ok a =>
          cases he : (setValue W fuel s path c (String.ofList ks) a n).err with
          | some e => simp [he]
          | none => simp only [he]; exact ih _ _
    · simp [loadTree_cons_nonstr W fuel s path c key value rest _ n hne]

/-- how `_set_value` and the list proxy make a configuration from a map: built from `s'` with key file `kf`, then loaded -/
def Rebuilt (W : World) (fuel : Nat) (s' : Schema) (kf : Option String) (x : Cfg) : Prop :=
  ∃ (p : String) (n : Nat) (fresh : Cfg) (n1 : Nat) (kvs : List (Val × Val)),
    build W p true kf s' n = .ok (fresh, n1) ∧ x = (loadTree W fuel s' p fresh kvs true n1).cfg

theorem Rebuilt.induction {P : Cfg → Prop} {W : World} {fuel : Nat} {s' : Schema} {kf : Option String} {x : Cfg}
    (h : Rebuilt W fuel s' kf x) (hb : ∀ p n fresh n1, build W p true kf s' n = .ok (fresh, n1) → P fresh)
    (hs : ∀ p c k v n, P c → P (setValue W fuel s' p c k (.val v) n).cfg) : P x := by
  obtain ⟨p, n, fresh, n1, kvs, hb', rfl⟩ := h
  exact loadTree_induction W fuel s' p kvs (fun c k v n _ hc => hs p c k v n hc) fresh true n1 (hb p n fresh n1 hb')

/-- what the non-field branch of `_set_value` stores: the given configuration re-parented, or one made from the given map -/
inductive SubStored (W : World) (fuel : Nat) (s' : Schema) (kf : Option String) : Arg → Slot → Prop
  | given (sub : Cfg) : SubStored W fuel s' kf (.cfg sub true) (.node (sub.withLinked true))
  | made (kvs : List (Val × Val)) (x : Cfg) (hx : Rebuilt W fuel s' kf x) : SubStored W fuel s' kf (.val (.dict kvs)) (.node x)

theorem setSub_cases (W : World) (fuel : Nat) (s' : Schema) (kf : Option String) (path : String) (c : Cfg) (k : String)
    (a : Arg) (n : Nat) :
    (∃ e n', setSub W fuel s' kf path c k a n = { cfg := c, err := some e, next := n' }) ∨
    ∃ sl n', SubStored W fuel s' kf a sl ∧ setSub W fuel s' kf path c k a n = { cfg := c.setUser k sl, next := n' } := by
  unfold setSub
  cases a with
  | cfg sub same =>
    cases same
    · exact .inl ⟨_, _, rfl⟩
    · exact .inr ⟨_, _, .given sub, rfl⟩
  | val v =>
    cases v
    case dict kvs =>
      cases hb : build W (joinPath path k) true kf s' n with
      | error e => exact .inl ⟨_, _, rfl⟩
      | ok r =>
        simp only
        cases he : (loadTree W fuel s' (joinPath path k) r.1 kvs true r.2).err with
        | some e => exact .inl ⟨_, _, rfl⟩
        | none => exact .inr ⟨_, _, .made kvs _ ⟨_, n, r.1, r.2, kvs, hb, rfl⟩, rfl⟩
    all_goals exact .inl ⟨_, _, rfl⟩

theorem setSub_assigned (W : World) (fuel : Nat) (s' : Schema) (kf : Option String) (path : String) (c : Cfg) (k : String)
    (a : Arg) (n : Nat) : Assigned (SubStored W fuel s' kf a) c k (setSub W fuel s' kf path c k a n) := by
  rcases setSub_cases W fuel s' kf path c k a n with ⟨e, n', h⟩ | ⟨sl, n', hsl, h⟩ <;> rw [h]
  · exact .kept _ n'
  · exact .stored c sl n' (.inl rfl) hsl

theorem loadItems_rebuilt {W : World} {fuel : Nat} {s' : Schema} {path k : String} {items : List Val} {pos : Nat}
    {acc : List Cfg} {n : Nat} {cs : List Cfg} {n' : Nat} (h : loadItems W fuel s' path k pos items acc n = (.ok cs, n')) :
    ∀ x ∈ cs, x ∈ acc ∨ Rebuilt W fuel s' none x := by
  induction items generalizing pos acc n with
  | nil =>
    unfold loadItems at h
    cases h
    exact fun x hx => .inl (List.mem_reverse.mp hx)
  | cons item rest ih =>
    unfold loadItems at h
    split at h
    next kvs =>
      split at h
      · cases h
      next fresh n1 hb =>
        simp only at h
        split at h
        · cases h
        · intro x hx
          rcases ih h x hx with hm | hm
          · rcases List.mem_cons.mp hm with rfl | hm
            · exact .inr ⟨_, n, fresh, n1, kvs, hb, rfl⟩
            · exact .inl hm
          · exact .inr hm
    · cases h

/-- what `_set_value` hands to a leaf field's validation -/
def Arg.value : Arg → Val
  | .val v => v
  | .cfg _ _ => .opaque "Config"

/-- the slots `_set_value` (with `fuel` to spend) can store for argument `a` under a key, by what the schema declares there -/
inductive Storable (W : World) (a : Arg) : Nat → Option SField → Slot → Prop
  | undeclared (fuel : Nat) (sl : Slot) : Storable W a fuel none sl
  | leaf (fuel : Nat) (fs : FieldSpec) (m : LeafMeta) (v : Val) (hv : validate W.fe.toEnv fs a.value = .ok v) :
      Storable W a fuel (some (.leaf fs m)) (.val v)
  | sub (fuel : Nat) (f : SField) (s' : Schema) (kf : Option String) (sl : Slot) (hf : subSchema f = some (s', kf))
      (hsl : SubStored W fuel s' kf a sl) : Storable W a (fuel + 1) (some f) sl
  | unset (fuel : Nat) (s' : Schema) (it : Bool) (m : LeafMeta) : Storable W a fuel (some (.cfgList s' it false m)) (.val .none)
  | items (fuel : Nat) (s' : Schema) (it req : Bool) (m : LeafMeta) (cs : List Cfg) (hcs : ∀ x ∈ cs, Rebuilt W fuel s' none x) :
      Storable W a (fuel + 1) (some (.cfgList s' it req m)) (.nodes cs)

theorem setValue_leaf (W : World) (fuel : Nat) (s : Schema) (path : String) (c : Cfg) (k : String) (a : Arg) (n : Nat)
    {fs : FieldSpec} {m : LeafMeta} (hf : s.get k = some (.leaf fs m)) :
    setValue W (fuel + 1) s path c k a n =
      (match validate W.fe.toEnv fs a.value with
       | .ok v' => { cfg := c.setUser k (.val v'), next := n }
       | .error e => { cfg := c, err := some (fieldErr path k e), next := n }) := by
  unfold setValue
  simp only [getField_some c hf]
  cases a <;> rfl

theorem setValue_sub (W : World) (fuel : Nat) (s : Schema) (path : String) (c : Cfg) (k : String) (a : Arg) (n : Nat)
    {f : SField} {s' : Schema} {kf : Option String} (hf : s.get k = some f) (hs : subSchema f = some (s', kf)) :
    setValue W (fuel + 1) s path c k a n = setSub W fuel s' kf path c k a n := by
  unfold setValue
  simp only [getField_some c hf]
  cases f <;> cases hs <;> rfl

/-- **What `_set_value` can do to the configuration it is called on**, for every field class, argument, fuel and outcome: leave
    it as it was, or do one `setUser` at `k` of a slot that `Storable` describes by what the schema declares at `k`. -/
theorem setValue_assigned (W : World) (fuel : Nat) (s : Schema) (path : String) (c : Cfg) (k : String) (a : Arg) (n : Nat) :
    Assigned (Storable W a fuel (s.get k)) c k (setValue W fuel s path c k a n) := by
  cases fuel with
  | zero => unfold setValue; exact .kept _ _
  | succ fuel =>
    cases hk : s.get k with
    | none =>
      unfold setValue
      cases hg : getField s c k with
      | declared f => rw [getField_declared hg] at hk; cases hk
      | dynamic => cases a <;> exact .stored c _ _ (.inl rfl) (.undeclared _ _)
      | missing =>
        cases s.dynamic
        · exact .kept _ _
        · cases a <;> exact .stored _ _ _ (.inr rfl) (.undeclared _ _)
    | some f =>
      cases f with
      | leaf fs m =>
        rw [setValue_leaf W fuel s path c k a n hk]
        cases hv : validate W.fe.toEnv fs a.value with
        | error e => exact .kept _ _
        | ok v => exact .stored c _ _ (.inl rfl) (.leaf _ fs m v hv)
      | sub s' | ctype s' kf =>
        rw [setValue_sub W fuel s path c k a n hk rfl]
        exact (setSub_assigned W fuel s' _ path c k a n).mono fun sl h => .sub fuel _ s' _ sl rfl h
      | virtual cst hs => unfold setValue; simp only [getField_some c hk]; cases hs <;> exact .kept _ _
      | method => unfold setValue; simp only [getField_some c hk]; exact .kept _ _
      | cfgList s' it req m =>
        unfold setValue
        simp only [getField_some c hk]
        cases a with
        | cfg sub same => exact .kept _ _
        | val v =>
          cases v
          case none =>
            cases req
            · exact .stored c _ _ (.inl rfl) (.unset _ s' it m)
            · exact .kept _ _
          case list xs =>
            simp only
            cases hl : loadItems W fuel s' path k 0 xs [] n with
            | mk r n' =>
              cases r with
              | error e => exact .kept _ _
              | ok cs =>
                simp only
                split
                · exact .kept _ _
                · exact .stored c _ _ (.inl rfl)
                    (.items fuel s' it req m cs fun x hx => (loadItems_rebuilt hl x hx).resolve_left List.not_mem_nil)
          all_goals exact .kept _ _

theorem slots_of_write {R : SField → Option Slot → Prop} {s : Schema} {c c' : Cfg} {k : String} {slot : Slot}
    (hget : ∀ k', c'.get k' = if k' = k then some slot else c.get k')
    (hi : ∀ k' f, s.get k' = some f → R f (c.get k')) (hs : ∀ f, s.get k = some f → R f (some slot)) :
    ∀ k' f, s.get k' = some f → R f (c'.get k') := by
  intro k' f hf
  rw [hget k']
  split
  · subst k'; exact hs f hf
  · exact hi k' f hf

/-- **An invariant "every declared key holds a slot its field allows" passes through `_set_value`** (returning or raising) when
    the field declared at the key allows the slots `Storable` describes. -/
theorem setValue_slots {R : SField → Option Slot → Prop} (W : World) (fuel : Nat) (s : Schema) (path : String) (c : Cfg)
    (k : String) (a : Arg) (n : Nat) (hi : ∀ k' f, s.get k' = some f → R f (c.get k'))
    (hs : ∀ f sl, s.get k = some f → Storable W a fuel (some f) sl → R f (some sl)) :
    ∀ k' f, s.get k' = some f → R f ((setValue W fuel s path c k a n).cfg.get k') := by
  intro k' f hf
  rcases (setValue_assigned W fuel s path c k a n).get_cases k' with h | ⟨rfl, sl, h, hsl⟩ <;> rw [h]
  · exact hi k' f hf
  · exact hs f sl hf (hf ▸ hsl)

theorem loadTree_frame (W : World) (fuel : Nat) (s : Schema) (path : String) (k : String) (t : List (Val × Val)) (c : Cfg)
    (dv : Bool) (n : Nat) (hk : k ∉ KeyfileLoad.treeKeys t) :
    (loadTree W fuel s path c t dv n).cfg.get k = c.get k ∧
    (loadTree W fuel s path c t dv n).cfg.defaults.contains k = c.defaults.contains k :=
  loadTree_induction (P := fun x => x.get k = c.get k ∧ x.defaults.contains k = c.defaults.contains k) W fuel s path t
    (fun c' k' _ n hm h =>
      have hne : k ≠ k' := fun e => hk (e ▸ hm)
      have ha := setValue_assigned W fuel s path c' k' _ n
      ⟨(ha.get_other hne).trans h.1, (ha.defaults_other hne).trans h.2⟩)
    c dv n ⟨rfl, rfl⟩

end Cinco.Config

namespace Cinco.Config.Defined
open Cinco Cinco.Field Cinco.Config

-- `leafDefault` stands here because `defaultSlot`, below, is stated through it, `storesD` because `DefaultStored.nothing` and
-- `defaultSlot_isSome` speak of it; their lemmas are in Proofs/Defined.lean
/-- what `field.__setdefault__` stores for a leaf field (or the exception it raises): the body of `setDefault` for `.leaf`
    with the configuration abstracted away (`setDefault_leaf` ties it to the model) -/
def leafDefault (W : World) (path k : String) (f : FieldSpec) (m : LeafMeta) : Except CErr Val :=
  match f.kind with
  | .list item =>
      match m.default.value with
      | .list xs =>
        (match validateItems W.fe.toEnv item xs with
         | none => .ok (.list xs)
         | some (.ok ys) => .ok (.list ys)
         | some (.error e) => .error (.raw (match e with | .value => "ValueError" | .type => "TypeError" | .overflow => "OverflowError" | .entry _ => "ValidationError")))
      | d => .ok d
  | .dict kf vf =>
      match m.default.value with
      | .dict kvs =>
        if kf.isNone && vf.isNone then .ok (.dict kvs) else
        (match mapEntries (fun x => validateOpt W.fe.toEnv kf x) (fun x => validateOpt W.fe.toEnv vf x) kvs with
         | .ok es => .ok (.dict (buildDict es))
         | .error e => .error (fieldErr path k e))
      | d => .ok d
  | .challenge alg =>
      match envValue W m, m.default.value with
      | some s, _ => (match validate W.fe.toEnv f (.str s) with
           | .ok v => .ok v
           | .error e => .error (fieldErr path k e))
      | none, .none => .ok .none
      | none, .str p => let salt := W.fe.salt alg; .ok (.digest salt (W.fe.hash alg (salt ++ W.fe.utf8 p)) alg)
      | none, .digest s d a => .ok (.digest s d a)
      | none, _ => .error (.raw "TypeError")
  | _ =>
      match envValue W m with
      | some s => (match validate W.fe.toEnv f (.str s) with
          | .ok v => (match v with
              | .none => .ok m.default.value
              | v => .ok v)
          | .error e => .error (fieldErr path k e))
      | none => .ok m.default.value

/-- field classes whose `__setdefault__` stores a value: everything but virtual and instance-method fields
    (the same function as `C12.stores`, written without a catch-all; Proofs/Roundtrip.lean has a third copy, `SField.stores`) -/
def storesD : SField → Bool
  | .leaf _ _ => true
  | .sub _ => true
  | .ctype _ _ => true
  | .cfgList _ _ _ _ => true
  | .virtual _ _ => false
  | .method => false

end Cinco.Config.Defined

namespace Cinco.Config
open Cinco Cinco.Field Cinco.Config.Defined

/-- what `field.__setdefault__` stores under its own key (`none`: nothing — virtual and instance-method fields) and the next
    free identity; it does not look at the configuration -/
def defaultSlot (W : World) (path k : String) : SField → Nat → Except CErr (Option Slot × Nat)
  | .leaf fs m, n => (leafDefault W path k fs m).map fun v => (some (.val v), n)
  | .sub s, n => (build W (joinPath path k) true none s n).map fun r => (some (.node r.1), r.2)
  | .ctype s kf, n => (build W (joinPath path k) true kf s n).map fun r => (some (.node r.1), r.2)
  | .cfgList _ _ _ m, n =>
    match m.default.value with
    | .list [] => .ok (some (.nodes []), n)
    | .none => .ok (some (.val .none), n)
    | _ => .error (.raw "unmodelled-default")
  | .virtual _ _, n => .ok (none, n)
  | .method, n => .ok (none, n)

/-- `_set_default_value` of an optional slot -/
def Cfg.storeDefault (c : Cfg) (k : String) : Option Slot → Cfg
  | some sl => c.setDefault k sl
  | none => c

theorem setDefault_eq (W : World) (path k : String) (f : SField) (c : Cfg) (n : Nat) :
    setDefault W path k f c n = (defaultSlot W path k f n).map fun r => (c.storeDefault k r.1, r.2) := by
  cases f with
  | leaf fs m =>
    simp only [setDefault]
    -- `leafDefault` is the leaf body of `setDefault` with `.ok v` for `.ok (c.setDefault k (.val v), n)`: branch by branch
    (repeat' split) <;> simp only [defaultSlot, leafDefault, *] <;> rfl
  | sub s | ctype s kf => simp only [setDefault, defaultSlot]; cases build W (joinPath path k) true _ s n <;> rfl
  | cfgList s it req m => simp only [setDefault]; split <;> simp only [defaultSlot, *] <;> rfl
  | _ => rfl

theorem setDefault_ok {W : World} {path k : String} {f : SField} {c c' : Cfg} {n n' : Nat} :
    setDefault W path k f c n = .ok (c', n') ↔ ∃ o, defaultSlot W path k f n = .ok (o, n') ∧ c' = c.storeDefault k o := by
  rw [setDefault_eq, Except.map_eq_ok]
  constructor
  · rintro ⟨r, hr, h⟩
    cases h
    exact ⟨r.1, hr, rfl⟩
  · rintro ⟨o, hr, rfl⟩
    exact ⟨_, hr, rfl⟩

theorem setDefault_leaf (W : World) (path k : String) (fs : FieldSpec) (m : LeafMeta) (c : Cfg) (n : Nat) :
    setDefault W path k (.leaf fs m) c n = (leafDefault W path k fs m).map fun v => (c.setDefault k (.val v), n) := by
  rw [setDefault_eq, defaultSlot]
  cases leafDefault W path k fs m <;> rfl

/-- what `field.__setdefault__` stores, by field class -/
inductive DefaultStored (W : World) (path k : String) : SField → Option Slot → Prop
  | leaf (fs : FieldSpec) (m : LeafMeta) (v : Val) (hv : leafDefault W path k fs m = .ok v) :
      DefaultStored W path k (.leaf fs m) (some (.val v))
  | built (f : SField) (s' : Schema) (kf : Option String) (n : Nat) (fresh : Cfg) (n' : Nat) (hf : subSchema f = some (s', kf))
      (hb : build W (joinPath path k) true kf s' n = .ok (fresh, n')) : DefaultStored W path k f (some (.node fresh))
  | empty (s' : Schema) (it req : Bool) (m : LeafMeta) (hd : m.default.value = .list []) :
      DefaultStored W path k (.cfgList s' it req m) (some (.nodes []))
  | unset (s' : Schema) (it req : Bool) (m : LeafMeta) (hd : m.default.value = .none) :
      DefaultStored W path k (.cfgList s' it req m) (some (.val .none))
  | nothing (f : SField) (hf : storesD f = false) : DefaultStored W path k f none

theorem defaultSlot_cases {W : World} {path k : String} {f : SField} {n n' : Nat} {o : Option Slot}
    (h : defaultSlot W path k f n = .ok (o, n')) : DefaultStored W path k f o := by
  cases f <;> simp only [defaultSlot, Except.map_eq_ok] at h
  case leaf fs m =>
    obtain ⟨v, hv, h⟩ := h
    cases h
    exact .leaf fs m v hv
  case sub s' | ctype s' kf =>
    obtain ⟨r, hr, h⟩ := h
    cases h
    exact .built _ s' _ n r.1 r.2 rfl hr
  case cfgList s' it req m =>
    split at h <;> cases h
    · exact .empty s' it req m ‹_›
    · exact .unset s' it req m ‹_›
  all_goals cases h; exact .nothing _ rfl

theorem defaultSlot_isSome {W : World} {path k : String} {f : SField} {n n' : Nat} {o : Option Slot}
    (h : defaultSlot W path k f n = .ok (o, n')) : o.isSome = storesD f := by
  cases defaultSlot_cases h with
  | built f s' kf n fresh n' hf hb => cases f <;> cases hf <;> rfl
  | nothing f hf => exact hf.symm
  | _ => rfl

theorem Cfg.get_storeDefault_same (c : Cfg) (k : String) (o : Option Slot) : (c.storeDefault k o).get k = o.or (c.get k) := by
  cases o with
  | none => rfl
  | some sl => exact Cfg.get_setDefault_same c k sl

theorem Cfg.get_storeDefault_other (c : Cfg) {k k' : String} (h : k' ≠ k) (o : Option Slot) :
    (c.storeDefault k o).get k' = c.get k' := by
  cases o with
  | none => rfl
  | some sl => exact Cfg.get_setDefault_other c h sl

theorem Cfg.isSome_get_storeDefault (c : Cfg) (k k' : String) (o : Option Slot) :
    ((c.storeDefault k o).get k').isSome = ((c.get k').isSome || (o.isSome && k' == k)) := by
  by_cases hk : k' = k
  · subst hk; rw [Cfg.get_storeDefault_same]; cases o <;> simp
  · rw [Cfg.get_storeDefault_other c hk, beq_false_of_ne hk, Bool.and_false, Bool.or_false]

theorem Cfg.defaults_contains_storeDefault (c : Cfg) (k k' : String) (o : Option Slot) :
    (c.storeDefault k o).defaults.contains k' = (c.defaults.contains k' || (o.isSome && k' == k)) := by
  cases o with
  | none => simp [Cfg.storeDefault]
  | some sl => rw [Cfg.storeDefault, Cfg.defaults_contains_setDefault]; rfl

/-- the keys of one field list are pairwise distinct (`Schema.get` reads the first declaration of a key, `build` runs the
    `__setdefault__` of every one) -/
def nodupKeys : List (String × SField) → Bool
  | [] => true
  | (k, _) :: rest => (lookupField k rest).isNone && nodupKeys rest

theorem build_eq (W : World) (path : String) (linked : Bool) (kf : Option String) (s : Schema) (n : Nat) :
    build W path linked kf s n = buildFields W path s.fields (Cfg.mk n [] [] [] kf linked) (n + 1) := by
  cases s with
  | mk fields dyn vs => simp only [build, Schema.fields]

theorem buildFields_cons_ok {W : World} {path k : String} {f : SField} {rest : List (String × SField)} {c c' : Cfg} {n n' : Nat}
    (h : buildFields W path ((k, f) :: rest) c n = .ok (c', n')) :
    ∃ o n1, defaultSlot W path k f n = .ok (o, n1) ∧ buildFields W path rest (c.storeDefault k o) n1 = .ok (c', n') := by
  simp only [buildFields] at h
  cases hs : setDefault W path k f c n with
  | error e => rw [hs] at h; cases h
  | ok r =>
    rw [hs] at h
    obtain ⟨o, ho, hc⟩ := setDefault_ok.1 hs
    exact ⟨o, r.2, ho, hc ▸ h⟩

theorem buildFields_frame {W : World} {path : String} {k : String} {fs : List (String × SField)} {c c' : Cfg} {n n' : Nat}
    (h : buildFields W path fs c n = .ok (c', n')) (hl : lookupField k fs = none) : c'.get k = c.get k := by
  induction fs generalizing c n with
  | nil => simp only [buildFields] at h; cases h; rfl
  | cons p rest ih =>
    obtain ⟨o, n1, _, hrest⟩ := buildFields_cons_ok h
    simp only [lookupField] at hl
    split at hl
    · cases hl
    · rename_i hk
      rw [ih hrest hl, Cfg.get_storeDefault_other c (fun e => hk e.symm)]

theorem buildFields_get {W : World} {path : String} {k : String} {f : SField} {fs : List (String × SField)} {c c' : Cfg}
    {n n' : Nat} (hnd : nodupKeys fs = true) (h : buildFields W path fs c n = .ok (c', n')) (hl : lookupField k fs = some f) :
    ∃ n1 o n2, defaultSlot W path k f n1 = .ok (o, n2) ∧ c'.get k = o.or (c.get k) := by
  induction fs generalizing c n with
  | nil => simp [lookupField] at hl
  | cons p rest ih =>
    obtain ⟨o, n1, ho, hrest⟩ := buildFields_cons_ok h
    simp only [nodupKeys, Bool.and_eq_true, Option.isNone_iff_eq_none] at hnd
    simp only [lookupField] at hl
    split at hl
    · rename_i hk
      cases hl; subst hk
      exact ⟨n, o, n1, ho, by rw [buildFields_frame hrest hnd.1, Cfg.get_storeDefault_same]⟩
    · rename_i hk
      obtain ⟨m1, o', m2, ho', hget⟩ := ih hnd.2 hrest hl
      exact ⟨m1, o', m2, ho', by rw [hget, Cfg.get_storeDefault_other c (fun e => hk e.symm)]⟩

theorem build_get {W : World} {path : String} {linked : Bool} {kf : Option String} {s : Schema} {n n' : Nat} {c : Cfg}
    {k : String} {f : SField} (hnd : nodupKeys s.fields = true) (h : build W path linked kf s n = .ok (c, n'))
    (hf : s.get k = some f) : DefaultStored W path k f (c.get k) := by
  rw [build_eq] at h
  obtain ⟨n1, o, n2, ho, hget⟩ := buildFields_get hnd h hf
  have : c.get k = o := by rw [hget]; cases o <;> rfl
  exact this ▸ defaultSlot_cases ho

/-- **`__setitem__` by dotted path**: if `P` (i) holds of `_set_value` at any key, (ii) holds of a step that is refused with the
    configuration as it was, and (iii) passes from the outcome in a sub-configuration to the parent that writes the result
    back with `set`, then `P` holds of `setItem` at the first component of the path. -/
theorem setItem_induction (W : World) (a : Arg) (n : Nat) {P : Schema → Cfg → String → Out → Prop}
    (hval : ∀ fuel s path c k, P s c k (setValue W fuel s path c k a n))
    (hrej : ∀ s c k e, P s c k { cfg := c, err := some e, next := n })
    (hsub : ∀ s c key f s' kf sub k' o, s.get key = some f → subSchema f = some (s', kf) → c.get key = some (.node sub) →
      P s' sub k' o → P s c key { cfg := c.set key (.node o.cfg), err := o.err, next := o.next })
    (fuel : Nat) (s : Schema) (path : String) (c : Cfg) (dotted : List Char) :
    P s c (String.ofList (partitionDot dotted).1) (setItem W fuel s path c dotted a n) := by
  induction fuel generalizing s path c dotted with
  | zero => unfold setItem; exact hrej s c _ _
  | succ fuel ih =>
    unfold setItem
    cases partitionDot dotted with
    | mk k rest =>
      cases rest with
      | none => exact hval _ s path c _
      | some rest =>
        simp only
        split
        · exact hval _ s path c _
        · cases hg : getField s c (String.ofList k) with
          | missing => exact hrej s c _ _
          | dynamic => exact hrej s c _ _
          | declared f =>
            simp only
            split
            · rename_i s' kf sub hss hget
              exact hsub s c _ f s' kf sub _ _ (getField_declared hg) hss hget (ih s' _ sub rest)
            · exact hrej s c _ _

theorem walk_key (fuel : Nat) (s : Schema) (path : String) (c : Cfg) {k : String} (hk : '.' ∉ k.toList) :
    walk (fuel + 1) s path c k.toList = some (s, path, c, k) := by
  unfold walk
  simp [partitionDot_no_dot _ hk]

theorem replaceAt_key (fuel : Nat) (c : Cfg) {k : String} (hk : '.' ∉ k.toList) (g : Cfg → Cfg) :
    replaceAt (fuel + 1) c k.toList g = g c := by
  unfold replaceAt
  simp [partitionDot_no_dot _ hk]

/-- `replaceAt` along a path that `walk` can follow: what holds of `g` at the owner, and passes from a sub-configuration to the
    parent that writes it back with `set`, holds at the root -/
theorem replaceAt_induction {P : Schema → Cfg → Cfg → Prop} (g : Cfg → Cfg) {s' : Schema} {owner : Cfg} (hown : P s' owner (g owner))
    (hsub : ∀ s c key f s1 kf sub x, s.get key = some f → subSchema f = some (s1, kf) → c.get key = some (.node sub) →
      P s1 sub x → P s c (c.set key (.node x)))
    (fuel : Nat) (s : Schema) (path : String) (c : Cfg) (dotted : List Char) (p' k : String)
    (hw : walk fuel s path c dotted = some (s', p', owner, k)) : P s c (replaceAt fuel c dotted g) := by
  induction fuel generalizing s path c dotted with
  | zero => unfold walk at hw; cases hw
  | succ fuel ih =>
    unfold walk at hw
    unfold replaceAt
    cases hp : partitionDot dotted with
    | mk kk rest =>
      cases rest with
      | none =>
        simp only [hp] at hw
        cases hw
        exact hown
      | some rest =>
        simp only [hp] at hw ⊢
        split at hw
        · rename_i f hk
          split at hw
          · rename_i s1 kf sub hss hget
            simp only [hget]
            exact hsub s c _ f s1 kf sub _ hk hss hget (ih s1 _ sub rest hw)
          · cases hw
        · cases hw

theorem resetValue_key (W : World) (fuel : Nat) (s : Schema) (c : Cfg) {k : String} (n : Nat) {f : SField}
    (hk : '.' ∉ k.toList) (hf : s.get k = some f) :
    resetValue W (fuel + 1) s c k.toList n =
      (match setDefault W "" k f c n with
       | .ok (c', n') => { cfg := c', next := n' }
       | .error e => { cfg := c, err := some e, next := n }) := by
  unfold resetValue
  simp only [walk_key fuel s "" c hk, getField_some c hf]
  cases setDefault W "" k f c n with
  | error e => rfl
  | ok r => simp only [replaceAt_key fuel c hk]

mutual
  /-- `P` holds of the field list of the schema and of every schema nested in it -/
  def Schema.every (P : List (String × SField) → Bool) : Schema → Bool
    | .mk fields _ _ => P fields && everyFields P fields
  def SField.every (P : List (String × SField) → Bool) : SField → Bool
    | .leaf _ _ => true
    | .sub s => s.every P
    | .ctype s _ => s.every P
    | .cfgList s _ _ _ => s.every P
    | .virtual _ _ => true
    | .method => true
  def everyFields (P : List (String × SField) → Bool) : List (String × SField) → Bool
    | [] => true
    | (_, f) :: rest => f.every P && everyFields P rest
end

/-- the keys of the schema, and of every schema nested in it, are pairwise distinct (decidable) -/
def Schema.keysNodup (s : Schema) : Bool := s.every nodupKeys

theorem every_iff {P : List (String × SField) → Bool} {s : Schema} :
    s.every P = true ↔ P s.fields = true ∧ everyFields P s.fields = true := by
  cases s; simp only [Schema.every, Schema.fields, Bool.and_eq_true]

theorem everyFields_mem {P : List (String × SField) → Bool} {fs : List (String × SField)} {k : String} {f : SField}
    (he : everyFields P fs = true) (h : (k, f) ∈ fs) : f.every P = true := by
  induction fs with
  | nil => cases h
  | cons p rest ih =>
    simp only [everyFields, Bool.and_eq_true] at he
    rcases List.mem_cons.mp h with h | h
    · cases h; exact he.1
    · exact ih he.2 h

theorem lookupField_mem {fs : List (String × SField)} {k : String} {f : SField} (h : lookupField k fs = some f) : (k, f) ∈ fs := by
  induction fs with
  | nil => cases h
  | cons p rest ih =>
    simp only [lookupField] at h
    split at h
    · rename_i e; cases h; subst e; exact List.mem_cons_self
    · exact List.mem_cons_of_mem _ (ih h)

theorem everyFields_lookup {P : List (String × SField) → Bool} :
    ∀ {fs : List (String × SField)} {k : String} {f : SField}, everyFields P fs = true → lookupField k fs = some f → f.every P = true :=
  fun he h => everyFields_mem he (lookupField_mem h)

theorem lookupField_of_mem {fs : List (String × SField)} {k : String} {f : SField}
    (hnd : nodupKeys fs = true) (h : (k, f) ∈ fs) : lookupField k fs = some f := by
  induction fs with
  | nil => cases h
  | cons p rest ih =>
    obtain ⟨k', f'⟩ := p
    simp only [nodupKeys, Bool.and_eq_true, Option.isNone_iff_eq_none] at hnd
    rcases List.mem_cons.mp h with h | h
    · cases h; simp [lookupField]
    · have ih := ih hnd.2 h
      have hne : ¬ k' = k := by
        intro e; subst e
        rw [hnd.1] at ih; cases ih
      simp [lookupField, hne, ih]

theorem keysNodup_subSchema {s s' : Schema} {k : String} {f : SField} {kf : Option String} (h : s.keysNodup = true)
    (hf : s.get k = some f) (hs : subSchema f = some (s', kf)) : s'.keysNodup = true := by
  have := everyFields_lookup (every_iff.mp h).2 hf
  cases f <;> cases hs <;> exact this

theorem keysNodup_cfgList {s s' : Schema} {k : String} {it req : Bool} {m : LeafMeta} (h : s.keysNodup = true)
    (hf : s.get k = some (.cfgList s' it req m)) : s'.keysNodup = true :=
  everyFields_lookup (every_iff.mp h).2 hf

theorem isEmpty_eq_of_length_eq {α β : Type} {xs : List α} {ys : List β} (h : xs.length = ys.length) :
    xs.isEmpty = ys.isEmpty := by
  cases xs <;> cases ys <;> simp at h ⊢

end Cinco.Config
