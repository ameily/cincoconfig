import Cinco.Basic.Tree
/-
  `Kvs` is a Python dict of plain data as an insertion-ordered association list (`lookup`, `set`, `keys` in Basic/Tree.lean).
-/
namespace Cinco.Kvs
open Cinco

-- here, so that Lean derives their equations once and not again in every proof that unfolds one of them
attribute [local simp] lookup set

@[simp] theorem lookup_nil (k : String) : lookup k [] = none := rfl

@[simp] theorem keys_nil : keys [] = [] := rfl

@[simp] theorem keys_cons (k : String) (v : Tree) (d : Kvs) : keys ((k, v) :: d) = k :: keys d := rfl

@[simp] theorem keys_append (d d' : Kvs) : keys (d ++ d') = keys d ++ keys d' := List.map_append

theorem lookup_set (k k' : String) (v : Tree) (d : Kvs) :
    lookup k (set k' v d) = if k' = k then some v else lookup k d := by
  induction d with
  | nil => rfl
  | cons hd tl ih =>
    obtain ⟨k'', v''⟩ := hd
    by_cases h2 : k' = k
    · subst h2; by_cases h1 : k'' = k' <;> simp [h1, ih]
    · by_cases h1 : k'' = k' <;> simp [h1, h2, ih]

theorem lookup_eq_none_iff (k : String) (d : Kvs) : lookup k d = none ↔ k ∉ keys d := by
  induction d with
  | nil => simp
  | cons hd tl ih =>
    obtain ⟨k', v'⟩ := hd
    by_cases h : k' = k <;> simp [h, ih, Ne.symm]

theorem keys_set_mem {k : String} (v : Tree) {d : Kvs} (h : k ∈ keys d) : keys (set k v d) = keys d := by
  induction d with
  | nil => simp at h
  | cons hd tl ih =>
    obtain ⟨k', v'⟩ := hd
    by_cases h1 : k' = k
    · simp [h1]
    · have : k ∈ keys tl := by simpa [Ne.symm h1] using h
      simp [h1, ih this]

theorem set_of_not_mem {k : String} (v : Tree) {d : Kvs} (h : k ∉ keys d) : set k v d = d ++ [(k, v)] := by
  induction d with
  | nil => rfl
  | cons hd rest ih =>
    obtain ⟨k', v'⟩ := hd
    have h' : ¬ k' = k ∧ k ∉ keys rest := by simpa [eq_comm] using h
    simp [h'.1, ih h'.2]

end Cinco.Kvs
