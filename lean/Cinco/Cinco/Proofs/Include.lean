import Cinco.TreeIO.Include
import Cinco.Proofs.Kvs
/-
  `combine_trees` is a loop over the child with an accumulator, so its two laws are stated for `combineInto` with any
  accumulator (`lookup_combineInto`, `keys_combineInto`; the child's keys distinct) and read at `ret = base`.
  `_process_includes` is used through its equations on the forms of input the include theorems meet.
-/
namespace Cinco.Include
open Cinco Cinco.Kvs

-- here, so that Lean derives their equations once and not again in every proof that unfolds one of them
attribute [local simp] mergeVal combineInto

theorem mergeVal_dict_dict (b cv : Kvs) : mergeVal (some (.dict b)) (.dict cv) = .dict (combine b cv) := by
  rw [mergeVal, combine]

theorem mergeVal_of_not_both {bv : Option Tree} {v : Tree} (h : ∀ x y, bv = some (.dict x) → v ≠ .dict y) :
    mergeVal bv v = v := by
  cases v with
  | dict cv => rw [mergeVal]; exact fun b hb => h b cv hb rfl
  | _ => rfl

theorem mergeVal_none (v : Tree) : mergeVal none v = v :=
  mergeVal_of_not_both (fun _ _ h => nomatch h)

theorem lookup_combineInto (base : Kvs) (k : String) (ch ret : Kvs) (hnd : (keys ch).Nodup) :
    lookup k (combineInto base ret ch) = ((lookup k ch).map (mergeVal (lookup k base))).or (lookup k ret) := by
  induction ch generalizing ret with
  | nil => simp
  | cons hd tl ih =>
    obtain ⟨k', v⟩ := hd
    have hnd : k' ∉ keys tl ∧ (keys tl).Nodup := by simpa using hnd
    rw [combineInto, ih _ hnd.2, lookup_set, lookup]
    by_cases h : k' = k
    · subst h
      simp [(lookup_eq_none_iff _ _).2 hnd.1]
    · simp only [h, if_false]

theorem keys_combineInto (base : Kvs) (ch ret : Kvs) (hnd : (keys ch).Nodup) :
    keys (combineInto base ret ch) = keys ret ++ (keys ch).filter (fun k => decide (k ∉ keys ret)) := by
  induction ch generalizing ret with
  | nil => simp
  | cons hd tl ih =>
    obtain ⟨k', v⟩ := hd
    have hnd : k' ∉ keys tl ∧ (keys tl).Nodup := by simpa using hnd
    rw [combineInto, ih _ hnd.2, keys_cons, List.filter_cons]
    by_cases hm : k' ∈ keys ret
    · simp [keys_set_mem _ hm, hm]
    · -- a new key goes to the end of `ret`; excluding it as well changes nothing on `tl`, where it does not occur
      rw [set_of_not_mem _ hm, keys_append, keys_cons, keys_nil,
        List.filter_congr (q := fun k => decide (k ∉ keys ret)) fun x hx => by simp [ne_of_mem_of_not_mem hx hnd.1]]
      simp [hm]

theorem combineInto_of_disjoint (base : Kvs) (ch ret : Kvs) (hb : ∀ k ∈ keys ch, k ∉ keys base)
    (hnd : (keys (ret ++ ch)).Nodup) : combineInto base ret ch = ret ++ ch := by
  induction ch generalizing ret with
  | nil => simp
  | cons hd tl ih =>
    obtain ⟨k, v⟩ := hd
    have hk : k ∉ keys ret := fun hm => (List.nodup_append.1 (by simpa using hnd)).2.2 k hm k (by simp) rfl
    rw [combineInto, (lookup_eq_none_iff k base).2 (hb k (by simp)), mergeVal_none, set_of_not_mem v hk,
      ih _ (fun k' hk' => hb k' (by simp [hk'])) (by simpa using hnd)]
    simp

theorem combine_of_disjoint (b ch : Kvs) (h : (keys (b ++ ch)).Nodup) : combine b ch = b ++ ch :=
  combineInto_of_disjoint b ch b (fun k hk hb => (List.nodup_append.1 (by simpa using h)).2.2 k hb k hk rfl) h

theorem process_mk (resolve : Tree → Option Kvs) (incs : List String) (subs : List (String × IncSchema)) (t : Kvs) :
    process resolve (.mk incs subs) t = (processIncs resolve incs t).bind (processSubs resolve subs) := by
  rw [process]
  cases processIncs resolve incs t <;> rfl

theorem processIncs_cons (resolve : Tree → Option Kvs) {inc : String} (rest : List String) {t : Kvs} {fn : Tree}
    (hfn : lookup inc t = some fn) (hnn : fn ≠ .null) :
    processIncs resolve (inc :: rest) t =
      match resolve fn with
      | none => .error .unresolved
      | some child => processIncs resolve rest (combine t child) := by
  rw [processIncs, hfn]
  cases fn with
  | null => exact absurd rfl hnn
  | _ => rfl

theorem processSubs_cons_dict (resolve : Tree → Option Kvs) {k : String} (s : IncSchema) (rest : List (String × IncSchema))
    {t sub : Kvs} (hs : lookup k t = some (.dict sub)) (hne : sub ≠ []) :
    processSubs resolve ((k, s) :: rest) t =
      (process resolve s sub).bind fun sub' => processSubs resolve rest (Kvs.set k (.dict sub') t) := by
  rw [processSubs, hs]
  cases sub with
  | nil => exact absurd rfl hne
  | cons e es =>
    simp only [List.isEmpty_cons, Bool.false_eq_true, if_false]
    cases process resolve s (e :: es) <;> rfl

end Cinco.Include
