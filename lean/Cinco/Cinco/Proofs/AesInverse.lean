import Cinco.Crypto.Aes256
import Cinco.Proofs.Cipher
/-
  AES-256 (`Cinco/Crypto/Aes256.lean`) is a lawful block cipher.  Proved here: the round trip for any list of 16-byte round
  keys (`decryptBlockWith_encryptBlockWith`), and that `keyExpansion` yields 15 round keys of 16 bytes whatever the key (it pads
  or cuts the key to 32 bytes).  `Props/C08b.lean` puts the two together: `aes_block_inverse`
  (`decryptBlock key (encryptBlock key block) = block` for every key and every 16-byte block) and `aes_block_length`.

  Each layer is undone by its inverse:
    * `invSubBytes ∘ subBytes = id`          from the table check `sbox_inv` (256 cases, in `Aes256.lean`),
    * `invShiftRows ∘ shiftRows = id`        a permutation of sixteen bytes (the identity on every other list),
    * `addRoundKey (addRoundKey s k) k = s`  XOR is an involution,
    * `invMixColumns ∘ mixColumns = id`      `xtime` is XOR-linear; after distributing, the column identity `InvM · M = I` holds
                                             already in GF(2)[x] (all degrees stay below 8, so the AES polynomial never comes
                                             in) and is closed by sorting each XOR and cancelling `a ^^^ a`;
  the rounds follow by induction over the round keys.  The one enumeration in this file is `msb_cases` (`x &&& 0x80` is `0` or
  `0x80`, 256 cases).
-/

namespace Cinco.Aes

theorem xor_xor_cancel_left (a b : UInt8) : a ^^^ (a ^^^ b) = b := by
  rw [← UInt8.xor_assoc, UInt8.xor_self, UInt8.zero_xor]

theorem xor_and (a b c : UInt8) : (a ^^^ b) &&& c = (a &&& c) ^^^ (b &&& c) := by
  rw [← UInt8.toBitVec_inj]
  ext i hi
  simp [Bool.and_xor_distrib_right]

theorem msb_cases (x : UInt8) : x &&& 0x80 = 0 ∨ x &&& 0x80 = 0x80 := by
  have h : ∀ n, n < 256 → UInt8.ofNat n &&& 0x80 = 0 ∨ UInt8.ofNat n &&& 0x80 = 0x80 := by decide +kernel
  simpa using h x.toNat x.toNat_lt

theorem xtime_xor (a b : UInt8) : xtime (a ^^^ b) = xtime a ^^^ xtime b := by
  -- the reduction constant depends on the top bit alone, and additively so
  have hr : (if (a ^^^ b) &&& 0x80 = 0 then (0x00 : UInt8) else 0x1b) =
      (if a &&& 0x80 = 0 then 0x00 else 0x1b) ^^^ (if b &&& 0x80 = 0 then 0x00 else 0x1b) := by
    rw [xor_and]
    rcases msb_cases a with ha | ha <;> rcases msb_cases b with hb | hb <;> rw [ha, hb] <;> decide
  unfold xtime
  rw [UInt8.shiftLeft_xor, hr]
  ac_rfl

theorem mul2_xor (a b : UInt8) : mul2 (a ^^^ b) = mul2 a ^^^ mul2 b := xtime_xor a b

theorem invMixColumns_mixColumns_cons (a b c d : UInt8) (rest : List UInt8) :
    invMixColumns (mixColumns (a :: b :: c :: d :: rest)) = a :: b :: c :: d :: invMixColumns (mixColumns rest) := by
  simp only [mixColumns, invMixColumns, mul2, mul3, mul9, mul11, mul13, mul14, xtime_xor]
  ac_nf
  simp only [xor_xor_cancel_left, UInt8.xor_self, UInt8.xor_zero]

theorem columns_induction {P : List UInt8 → Prop} (nil : P [])
    (cons : ∀ a b c d rest, P rest → P (a :: b :: c :: d :: rest)) : ∀ s : List UInt8, s.length % 4 = 0 → P s
  | [], _ => nil
  | [_], h | [_, _], h | [_, _, _], h => by simp at h
  | a :: b :: c :: d :: rest, h =>
    cons a b c d rest (columns_induction nil cons rest (by simp only [List.length_cons] at h; omega))

theorem invMixColumns_mixColumns : ∀ (s : List UInt8), s.length % 4 = 0 → invMixColumns (mixColumns s) = s :=
  columns_induction rfl fun a b c d rest ih => by rw [invMixColumns_mixColumns_cons, ih]

theorem mixColumns_length : ∀ (s : List UInt8), s.length % 4 = 0 → (mixColumns s).length = s.length :=
  columns_induction rfl fun a b c d rest ih => by simp only [mixColumns, List.length_cons, ih]

theorem invMixColumns_length : ∀ (s : List UInt8), s.length % 4 = 0 → (invMixColumns s).length = s.length :=
  columns_induction rfl fun a b c d rest ih => by simp only [invMixColumns, List.length_cons, ih]

theorem invSubBytes_subBytes (s : List UInt8) : invSubBytes (subBytes s) = s := by
  simp [invSubBytes, subBytes, List.map_map, Function.comp_def, invSubByte, subByte, sbox_inv]

theorem subBytes_length (s : List UInt8) : (subBytes s).length = s.length := by simp [subBytes]
theorem invSubBytes_length (s : List UInt8) : (invSubBytes s).length = s.length := by simp [invSubBytes]

theorem invShiftRows_shiftRows (s : List UInt8) : invShiftRows (shiftRows s) = s := by
  unfold shiftRows
  split
  · rfl
  next hs =>
    unfold invShiftRows
    split
    · exact absurd rfl (hs _ _ _ _ _ _ _ _ _ _ _ _ _ _ _ _)
    · rfl

theorem shiftRows_length (s : List UInt8) : (shiftRows s).length = s.length := by
  unfold shiftRows; split <;> rfl

theorem invShiftRows_length (s : List UInt8) (h : s.length = 16) : (invShiftRows s).length = 16 := by
  unfold invShiftRows; split
  · rfl
  · exact h

theorem addRoundKey_addRoundKey (s k : List UInt8) (h : s.length = k.length) :
    addRoundKey (addRoundKey s k) k = s := Crypto.xorB_cancel s k (Nat.le_of_eq h)

theorem addRoundKey_length (s k : List UInt8) : (addRoundKey s k).length = min s.length k.length := by
  simp [addRoundKey, xorBytes]

theorem padTo_length (n : Nat) (l : List UInt8) : (padTo n l).length = n := by
  simp only [padTo, List.length_take, List.length_append, List.length_replicate]; omega

theorem padTo_of_length (n : Nat) (l : List UInt8) (h : l.length = n) : padTo n l = l := by
  subst h
  simp [padTo]

/-! All states and round keys below have 16 bytes; with the hypotheses at hand `simp` settles every length side condition
from these four facts. -/

attribute [local simp] subBytes_length shiftRows_length addRoundKey_length mixColumns_length

theorem encRounds_cons (rk : List UInt8) {rks : List (List UInt8)} (h : rks ≠ []) (s : List UInt8) :
    encRounds (rk :: rks) s = encRounds rks (addRoundKey (mixColumns (shiftRows (subBytes s))) rk) := by
  cases rks with
  | nil => exact absurd rfl h
  | cons _ _ => rfl

theorem decRounds_cons (rk : List UInt8) {rks : List (List UInt8)} (h : rks ≠ []) (s : List UInt8) :
    decRounds (rk :: rks) s = decRounds rks (invMixColumns (addRoundKey (invSubBytes (invShiftRows s)) rk)) := by
  cases rks with
  | nil => exact absurd rfl h
  | cons _ _ => rfl

theorem encRounds_length (rks : List (List UInt8)) (s : List UInt8) (hk : ∀ rk ∈ rks, rk.length = 16)
    (hs : s.length = 16) : (encRounds rks s).length = 16 := by
  induction rks generalizing s with
  | nil => exact hs
  | cons rk rks ih =>
    obtain ⟨h, hk'⟩ := List.forall_mem_cons.1 hk
    cases rks with
    | nil => simp [encRounds, hs, h]
    | cons rk' rks =>
      -- a full round, then the rounds for `rk' :: rks`
      exact ih _ hk' (by simp [hs, h])

/-- The inverse cipher, run on what the forward rounds for `rk :: rest` make of a state, with the round keys used before
    them in front: its rounds for `rk :: rest` peel the forward rounds off one by one, those for `pre` are left to do. -/
theorem decryptBlockWith_encRounds (pre : List (List UInt8)) (rk : List UInt8) (rest : List (List UInt8)) (s : List UInt8)
    (hpre : pre ≠ []) (hk : ∀ k ∈ rk :: rest, k.length = 16) (hs : s.length = 16) :
    decryptBlockWith (pre ++ rk :: rest) (encRounds (rk :: rest) s) = decRounds pre.reverse (shiftRows (subBytes s)) := by
  induction rest generalizing pre rk s with
  | nil =>
    have hrk := hk rk List.mem_cons_self
    have hl : (addRoundKey (shiftRows (subBytes s)) rk).length = 16 := by simp [hs, hrk]
    simp only [decryptBlockWith, List.reverse_append, List.reverse_singleton, List.singleton_append, encRounds,
      padTo_of_length 16 _ hl]
    rw [addRoundKey_addRoundKey _ _ (by simp [hs, hrk])]
  | cons rk' rest ih =>
    obtain ⟨hrk, hk⟩ := List.forall_mem_cons.1 hk
    rw [List.append_cons, encRounds_cons rk (List.cons_ne_nil rk' rest),
      ih (pre ++ [rk]) rk' _ (by simp) hk (by simp [hs, hrk]),
      List.reverse_append, List.reverse_singleton, List.singleton_append,
      decRounds_cons rk (by simpa using hpre), invShiftRows_shiftRows, invSubBytes_subBytes,
      addRoundKey_addRoundKey _ _ (by simp [hs, hrk]), invMixColumns_mixColumns _ (by simp [hs])]

theorem encryptBlockWith_length (rks : List (List UInt8)) (hk : ∀ rk ∈ rks, rk.length = 16)
    (block : List UInt8) : (encryptBlockWith rks block).length = 16 := by
  cases rks with
  | nil => exact padTo_length 16 block
  | cons rk0 rest =>
    obtain ⟨h0, hrest⟩ := List.forall_mem_cons.1 hk
    exact encRounds_length rest _ hrest (by simp [padTo_length, h0])

theorem decryptBlockWith_encryptBlockWith (rks : List (List UInt8)) (hk : ∀ rk ∈ rks, rk.length = 16)
    (block : List UInt8) (hb : block.length = 16) :
    decryptBlockWith rks (encryptBlockWith rks block) = block := by
  cases rks with
  | nil => simp [decryptBlockWith, encryptBlockWith, padTo_of_length 16 block hb]
  | cons rk0 rest =>
    obtain ⟨h0, hrest⟩ := List.forall_mem_cons.1 hk
    have hs0 : (addRoundKey block rk0).length = 16 := by simp [hb, h0]
    have h00 := addRoundKey_addRoundKey block rk0 (by rw [hb, h0])
    rw [encryptBlockWith, padTo_of_length 16 block hb]
    cases rest with
    | nil =>
      simp only [decryptBlockWith, List.reverse_singleton, encRounds, decRounds, padTo_of_length 16 _ hs0]
      exact h00
    | cons rk1 rest =>
      refine (decryptBlockWith_encRounds [rk0] rk1 rest _ (List.cons_ne_nil _ _) hrest hs0).trans ?_
      simp only [List.reverse_singleton, decRounds]
      rw [invShiftRows_shiftRows, invSubBytes_subBytes, h00]

theorem nextKeyChunk_length (rcon : UInt8) (k : List UInt8) :
    (nextKeyChunk rcon k).length = k.length := by
  unfold nextKeyChunk
  split <;> rfl

theorem expandChunks_length (n : Nat) (rcon : UInt8) (k : List UInt8) : (expandChunks n rcon k).length = 2 * n + 2 := by
  induction n generalizing rcon k with
  | zero => rfl
  | succ n ih => simp only [expandChunks, List.length_cons, ih]; omega

theorem expandChunks_mem_length (n : Nat) (rcon : UInt8) (k : List UInt8) (hk : k.length = 32) :
    ∀ rk ∈ expandChunks n rcon k, rk.length = 16 := by
  induction n generalizing rcon k with
  | zero => simp [expandChunks, hk]
  | succ n ih =>
    rw [expandChunks, List.forall_mem_cons, List.forall_mem_cons]
    exact ⟨by simp [hk], by simp [hk], ih _ _ (by rw [nextKeyChunk_length, hk])⟩

theorem keyExpansion_length (key : List UInt8) : (keyExpansion key).length = 15 := by
  simp [keyExpansion, List.length_take, expandChunks_length]

theorem keyExpansion_mem_length (key : List UInt8) : ∀ rk ∈ keyExpansion key, rk.length = 16 := by
  intro rk hmem
  exact expandChunks_mem_length 7 _ _ (padTo_length 32 key) rk (List.mem_of_mem_take hmem)

end Cinco.Aes

namespace Cinco
open Crypto

/-- The executable AES as a `BlockCipher` (same argument order as `Driver.realCipher` and
`Drv/FieldWire.lean`: key first, then block). -/
def aesCipher : BlockCipher := ⟨Aes.encryptBlock, Aes.decryptBlock⟩

end Cinco
