import Cinco.Props.C17
/-
  What it means that the typed dict (`DictProxy`, the association-list dict of `Cinco/Proxy/DictProxy.lean`) holds only
  validation results, and the one theorem both of its invariants come from; the invariants themselves, the dict mirror of
  `C17.list_inv` / `C17.list_run_inv`, are stated in `Props/C17b.lean`.

  "Validation result" is the notion of `C17.ItemOk` (`∃ u, validate E f u = .ok v`), taken through `validateOpt` because the
  key field and the value field of a dict are optional (`none` = `AnyField()`, which accepts everything unchanged): see
  `optOk_some` / `optOk_none`.

  Five lemmas about `validateEntry`, `validateEntries`, `presentUnder` and `dstep` (`validateEntry_eq_ok`,
  `validateEntries_cons_ok`, `presentUnder_of_ok`, `dstep_update`, `dstep_ior`) stand with their definitions in
  `Proxy/DictProxy.lean`.
-/
namespace Cinco.Proxy.DictInv
open Cinco Cinco.Field Cinco.Proxy

def OptOk (E : Env) (f : Option FieldSpec) (v : Val) : Prop := ∃ u, validateOpt E f u = .ok v

theorem optOk_some (E : Env) (f : FieldSpec) (v : Val) : OptOk E (some f) v ↔ C17.ItemOk E f v := by
  simp only [OptOk, C17.ItemOk, validateOpt]

theorem optOk_none (E : Env) (v : Val) : OptOk E none v := ⟨v, by simp only [validateOpt]⟩

def EntryOk (E : Env) (kf vf : Option FieldSpec) (kv : Val × Val) : Prop := OptOk E kf kv.1 ∧ OptOk E vf kv.2

def DictOk (E : Env) (kf vf : Option FieldSpec) (kvs : List (Val × Val)) : Prop := ∀ kv ∈ kvs, EntryOk E kf vf kv

/-- the only arguments that are stored without validation: the entries of `update(other)` when `other` is a proxy of the same
    key/value fields (the "compatible proxy" call form) — they are themselves validated entries.  Everything else
    (plain iterables, keywords, `|=`, `setdefault`, item assignment) is unconstrained. -/
def DOpOk (E : Env) (kf vf : Option FieldSpec) : DOp → Prop
  | .update pairs compat _ => compat = true → DictOk E kf vf pairs
  | _ => True

/-- the dict's keys in insertion order; = `Field.keysD` of `Proofs/FieldLemmas.lean`, whose lemmas apply after unfolding -/
def dkeys (d : List (Val × Val)) : List Val := d.map Prod.fst

/-- the model's key equality is `==` on `Val`, which is structural equality -/
theorem val_beq_iff (a b : Val) : (a == b) = true ↔ a = b := by simp

theorem validateEntry_ok {E : Env} {kf vf : Option FieldSpec} {k v : Val} {kv : Val × Val}
    (h : validateEntry E kf vf k v = .ok kv) : EntryOk E kf vf kv :=
  have ⟨hk, hv⟩ := validateEntry_eq_ok.1 h
  ⟨⟨k, hk⟩, ⟨v, hv⟩⟩

theorem dictDel_sublist (k : Val) (d : List (Val × Val)) : (dictDel k d).Sublist d := by
  induction d with
  | nil => exact .slnil
  | cons e rest ih =>
    simp only [dictDel]
    split
    · exact List.sublist_cons_self _ _
    · exact ih.cons_cons _

section Preserves
variable {E : Env} {kf vf : Option FieldSpec} {P : List (Val × Val) → Prop} {Q : Val × Val → Prop}

section
variable (hset : ∀ {d k v}, P d → Q (k, v) → P (dictSet k v d))
  (hQ : ∀ {k v kv}, validateEntry E kf vf k v = .ok kv → Q kv)
include hset

theorem setAll_preserves {d ps : List (Val × Val)} (hd : P d) (hps : ∀ kv ∈ ps, Q kv) : P (setAll d ps) :=
  List.foldlRecOn ps _ hd fun _ hd kv hm => hset hd (hps kv hm)

include hQ

/-- keywords are stored one by one; whatever prefix was stored when one is rejected, `P` holds -/
theorem setSeq_preserves {kw d : List (Val × Val)} (hd : P d) : P (setSeq E kf vf d kw).1 := by
  induction kw generalizing d with
  | nil => exact hd
  | cons e rest ih =>
    obtain ⟨k, v⟩ := e
    simp only [setSeq]
    cases he : validateEntry E kf vf k v with
    | error e => exact hd
    | ok kv =>
      exact ih (hset hd (hQ he))

omit hset in
theorem validateEntries_all {pairs ps : List (Val × Val)} (h : validateEntries E kf vf pairs = .ok ps) : ∀ kv ∈ ps, Q kv := by
  induction pairs generalizing ps with
  | nil => cases h; exact fun _ h => nomatch h
  | cons e rest ih =>
    obtain ⟨kv, r, he, hr, rfl⟩ := validateEntries_cons_ok h
    exact List.forall_mem_cons.2 ⟨hQ he, ih hr⟩

end

/-- **Every operation, accepted or rejected, changes the dict only by `d[k] = v` for an entry that `validateEntry` returned or
    that a compatible proxy handed over, and by passing to a sublist** (deletion, `popitem`, `clear`): a property `P` of dicts
    that these keep — `Q` being what it needs of a stored entry — holds after every operation.
    Operations covered: item assignment, `update` in every call form (plain iterable, compatible proxy, keywords, and their
    combinations), `setdefault`, `|=`, `pop`, `popitem`, `del`, `clear`.  A rejected `update` leaves either the dict as it
    was (a bad entry of the iterable: the iterable is validated as a whole first) or the dict after the whole iterable and a
    prefix of the keywords (a bad keyword). -/
theorem dstep_preserves (hset : ∀ {d k v}, P d → Q (k, v) → P (dictSet k v d))
    (hQ : ∀ {k v kv}, validateEntry E kf vf k v = .ok kv → Q kv)
    (hsub : ∀ {d d'}, d'.Sublist d → P d → P d') (d : List (Val × Val)) (op : DOp) (hd : P d)
    (ho : ∀ pairs kw, op = .update pairs true kw → ∀ kv ∈ pairs, Q kv) : P (dstep E kf vf d op).1 := by
  cases op with
  | set k v =>
    simp only [dstep.eq_def]
    cases he : validateEntry E kf vf k v with
    | error e => exact hd
    | ok kv =>
      exact hset hd (hQ he)
  | update pairs compat kw =>
    rw [dstep_update]
    cases compat with
    | true => exact setSeq_preserves hset hQ (setAll_preserves hset hd (ho pairs kw rfl))
    | false =>
      cases hv : validateEntries E kf vf pairs with
      | error e => exact hd
      | ok ps => exact setSeq_preserves hset hQ (setAll_preserves hset hd (validateEntries_all hQ hv))
  | setdefault k v =>
    -- present under the normalised key, rejected, present after all: unchanged; else the validated entry is stored
    simp only [dstep.eq_def]
    split
    · exact hd
    · split
      · exact hd
      · split
        · exact hd
        · exact hset hd (hQ ‹_›)
  | ior pairs =>
    rw [dstep_ior]
    cases hv : validateEntries E kf vf pairs with
    | error e => exact hd
    | ok ps => exact setAll_preserves hset hd (validateEntries_all hQ hv)
  | pop k dflt =>
    simp only [dstep.eq_def]
    split
    · exact hsub (dictDel_sublist k d) hd
    · split <;> exact hd
  | popitem =>
    simp only [dstep.eq_def]
    split
    · exact hsub (List.dropLast_sublist d) hd
    · exact hd
  | del k =>
    simp only [dstep.eq_def]
    split
    · exact hsub (dictDel_sublist k d) hd
    · exact hd
  | clear => exact hsub (List.nil_sublist d) hd

end Preserves

end Cinco.Proxy.DictInv
