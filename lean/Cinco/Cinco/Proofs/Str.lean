import Cinco.Basic.Str
/-
  The string primitives of `Cinco.Str` as far as parsing and printing need them: a text whose first and last character are
  not to be stripped is its own strip; a decimal numeral without leading zero is what `Nat.toDigits` prints for its value
  (`toDigits_ofDigitChars`); `int(str(i)) == i`.
-/
namespace Cinco.Str

/-- the text does not begin with a character satisfying `p`; `HeadNot p s.reverse`: it does not end with one -/
def HeadNot (p : Char → Bool) (s : Str) : Prop := ∀ c, s.head? = some c → p c = false

theorem dropWhile_eq_self_of_head {p : Char → Bool} (s : Str) (h : HeadNot p s) : s.dropWhile p = s := by
  cases s with
  | nil => rfl
  | cons c rest => simp [List.dropWhile, h c rfl]

/-- the shape shared by `strip` and `stripChars` -/
def trim (p : Char → Bool) (s : Str) : Str := dropWhileEnd p (s.dropWhile p)

theorem trim_eq_self_of_ends {q : Char → Bool} {s : Str} (h1 : HeadNot q s) (h2 : HeadNot q s.reverse) : trim q s = s := by
  unfold trim dropWhileEnd
  rw [dropWhile_eq_self_of_head s h1, dropWhile_eq_self_of_head _ h2, List.reverse_reverse]

theorem strip_eq_self {s : Str} (h : ∀ c ∈ s, isSpace c = false) : strip s = s :=
  trim_eq_self_of_ends (fun c hc => h c (List.mem_of_mem_head? hc))
    (fun c hc => h c (List.mem_reverse.1 (List.mem_of_mem_head? hc)))

theorem mem_of_head?_append {a b : Str} {c : Char} (ha : a ≠ []) (h : (a ++ b).head? = some c) : c ∈ a := by
  cases a with
  | nil => exact absurd rfl ha
  | cons x xs => simp at h; simp [h]

theorem toNat_of_isDigit {c : Char} (h : c.isDigit = true) : 48 ≤ c.toNat ∧ c.toNat ≤ 57 := by
  simp only [Char.isDigit, Bool.and_eq_true, decide_eq_true_eq] at h
  exact h

/-- `isSpace` on code points, so that its ranges go to `omega` -/
def isSpaceNat (n : Nat) : Bool :=
  (9 ≤ n && n ≤ 13) || (28 ≤ n && n ≤ 32) || n == 0x85 || n == 0xa0 || n == 0x1680 ||
  (0x2000 ≤ n && n ≤ 0x200a) || n == 0x2028 || n == 0x2029 || n == 0x202f || n == 0x205f || n == 0x3000

theorem isSpace_eq (c : Char) : isSpace c = isSpaceNat c.toNat := rfl

/-- the two stretches of code points that hold the letters of the model alphabet (and the printable ASCII characters) hold
    no blank -/
theorem isSpaceNat_of_range {n : Nat} (h : 33 ≤ n ∧ n ≤ 132 ∨ 161 ≤ n ∧ n ≤ 5759) : isSpaceNat n = false := by
  simp only [isSpaceNat, Bool.or_eq_false_iff, Bool.and_eq_false_iff, decide_eq_false_iff_not, beq_eq_false_iff_ne]
  omega

theorem isSpace_of_range {c : Char} (h1 : 33 ≤ c.toNat) (h2 : c.toNat ≤ 132) : isSpace c = false :=
  isSpaceNat_of_range (Or.inl ⟨h1, h2⟩)

theorem isSpace_of_isDigit {c : Char} (h : c.isDigit = true) : isSpace c = false :=
  isSpace_of_range (by have := toNat_of_isDigit h; omega) (by have := toNat_of_isDigit h; omega)

theorem exists_digitChar_of_isDigit {c : Char} (h : c.isDigit = true) :
    ∃ d, d < 10 ∧ c = Nat.digitChar d := by
  have hb := toNat_of_isDigit h
  have key : ∀ d, d < 10 → Char.ofNat (d + 48) = Nat.digitChar d := by decide
  refine ⟨c.toNat - 48, by omega, ?_⟩
  rw [← key _ (by omega), Nat.sub_add_cancel hb.1, Char.ofNat_toNat]

theorem toDigits_ofDigitChars_pos (s : Str) (n : Nat) (hn : 0 < n) (hd : ∀ c ∈ s, c.isDigit = true) :
    Nat.toDigits 10 (Nat.ofDigitChars 10 s n) = Nat.toDigits 10 n ++ s := by
  induction s generalizing n with
  | nil => simp
  | cons c cs ih =>
    obtain ⟨d, hd10, rfl⟩ := exists_digitChar_of_isDigit (hd c (by simp))
    rw [Nat.ofDigitChars_cons_digitChar_of_lt_ten hd10, ih _ (by omega) (fun x hx => hd x (by simp [hx])),
      ← Nat.toDigits_append_toDigits (by omega) hn hd10, Nat.toDigits_of_lt_base hd10]
    simp

theorem toDigits_ofDigitChars {s : Str} (hne : s ≠ []) (hd : ∀ c ∈ s, c.isDigit = true)
    (h0 : 1 < s.length → s.head? ≠ some '0') : Nat.toDigits 10 (Nat.ofDigitChars 10 s 0) = s := by
  match s, hne with
  | c :: cs, _ =>
    obtain ⟨d, hd10, rfl⟩ := exists_digitChar_of_isDigit (hd c (by simp))
    rw [Nat.ofDigitChars_cons_digitChar_of_lt_ten hd10]
    by_cases hz : d = 0
    · subst hz
      cases cs with
      | nil => rfl
      | cons x xs => exact absurd rfl (h0 (by simp))
    · rw [toDigits_ofDigitChars_pos cs _ (by omega) (fun x hx => hd x (by simp [hx])), Nat.mul_zero, Nat.zero_add,
        Nat.toDigits_of_lt_base hd10]
      rfl

theorem digitsOk_of_all_digits (s : Str) (prev : Bool) (hd : ∀ c ∈ s, c.isDigit = true) (h : s ≠ [] ∨ prev = true) :
    digitsOk prev s = true := by
  induction s generalizing prev with
  | nil =>
    cases h with
    | inl h => exact absurd rfl h
    | inr h => simpa [digitsOk] using h
  | cons c rest ih =>
    have hc : c.isDigit = true := hd c (by simp)
    simp only [digitsOk, hc, if_true]
    exact ih true (fun x hx => hd x (by simp [hx])) (Or.inr rfl)

theorem filter_underscore_of_all_digits (s : Str) (hd : ∀ c ∈ s, c.isDigit = true) : s.filter (· != '_') = s := by
  apply List.filter_eq_self.2
  intro c hc
  have := hd c hc
  simp only [bne_iff_ne, ne_eq]
  intro e
  subst e
  simp [Char.isDigit] at this

theorem isDigit_toDigits {n : Nat} {c : Char} (h : c ∈ Nat.toDigits 10 n) : c.isDigit = true :=
  Nat.isDigit_of_mem_toDigits (by omega) (by omega) h

theorem natOfDigits_toDigits (n : Nat) : natOfDigits (Nat.toDigits 10 n) = some n := by
  unfold natOfDigits
  rw [digitsOk_of_all_digits _ false (fun _ => isDigit_toDigits) (Or.inl Nat.toDigits_ne_nil),
    filter_underscore_of_all_digits _ fun _ => isDigit_toDigits]
  simp

theorem pyInt_toDigits (n : Nat) : pyInt (Nat.toDigits 10 n) = some (n : Int) := by
  unfold pyInt
  rw [strip_eq_self fun c hc => isSpace_of_isDigit (isDigit_toDigits hc)]
  split
  next r heq => exact absurd (isDigit_toDigits (heq ▸ List.mem_cons_self)) (by decide)
  next r heq => exact absurd (isDigit_toDigits (heq ▸ List.mem_cons_self)) (by decide)
  next => rw [natOfDigits_toDigits]; rfl

theorem pyInt_neg_toDigits (n : Nat) : pyInt ('-' :: Nat.toDigits 10 n) = some (-(n : Int)) := by
  unfold pyInt
  rw [strip_eq_self fun c hc => (List.mem_cons.1 hc).elim (fun e => e ▸ by decide) fun h => isSpace_of_isDigit (isDigit_toDigits h)]
  simp only [natOfDigits_toDigits]
  rfl

theorem pyInt_intRepr (i : Int) : pyInt (intRepr i) = some i := by
  unfold intRepr
  rw [Int.toString_eq_repr, Int.repr_eq_if]
  split
  · rw [Nat.toList_repr, pyInt_toDigits]
    exact congrArg some (Int.toNat_of_nonneg ‹_›)
  · rw [String.toList_append, Nat.toList_repr]
    exact (pyInt_neg_toDigits _).trans (congrArg some (by omega))

end Cinco.Str
