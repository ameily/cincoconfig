import Cinco.Config.Inv
import Cinco.Proofs.Cfg
import Cinco.Proofs.Leaves
/-
  The invariant of C01 (`Inv`, Config/Inv.lean) through construction and every mutating operation.  Each operation is known,
  from Proofs/Cfg.lean, to write at most one slot of a described origin (`setValue_assigned`, `setDefault_ok`, `build_get`)
  or to be a sequence / a path of such writes (`loadTree_induction`, `setItem_induction`, `replaceAt_induction`); what is
  proved here is that each such slot satisfies the clause of its field (`SlotOk`).  The lemmas about one level (`inv_setValue`,
  `inv_setValue_schemaOk`, `inv_loadTree`: an assignment to a key of this configuration) speak of `Inv W (d + 1)`, since at depth 0
  the invariant says nothing of a key; those that walk a path or build (`inv_build`, `inv_setItem`, `inv_resetValue`, `inv_set_node`)
  speak of `Inv W d` for every `d`, the depth falling with each step of the walk.
-/
namespace Cinco.Config
open Cinco Cinco.Field

/-- the clause of `Inv` for one declared field and the slot stored under its key -/
def SlotOk (W : World) (d : Nat) : SField → Option Slot → Prop
  | .leaf fs _, some (.val v) => Held W fs v
  | .sub s', some (.node sub) => Inv W d s' sub
  | .ctype s' _, some (.node sub) => Inv W d s' sub
  | .cfgList s' _ _ _, some (.nodes cs) => ∀ x ∈ cs, Inv W d s' x
  | _, _ => True

theorem inv_succ_iff {W : World} {d : Nat} {s : Schema} {c : Cfg} :
    Inv W (d + 1) s c ↔ ∀ k f, s.get k = some f → SlotOk W d f (c.get k) := Iff.rfl

theorem inv_zero (W : World) (s : Schema) (c : Cfg) : Inv W 0 s c := by
  unfold Inv; trivial

theorem inv_congr_get {W : World} {s : Schema} {c c' : Cfg} (h : ∀ k, c'.get k = c.get k) {d : Nat} (hi : Inv W d s c) :
    Inv W d s c' := by
  cases d with
  | zero => exact inv_zero W s c'
  | succ d =>
    rw [inv_succ_iff] at hi ⊢
    intro k f hf
    rw [h k]
    exact hi k f hf

theorem inv_withDefaults {W : World} {d : Nat} {s : Schema} {c : Cfg} (l : List String) (h : Inv W d s c) :
    Inv W d s (c.withDefaults l) := inv_congr_get (c := c) (c' := c.withDefaults l) (fun _ => rfl) h

theorem inv_withKeyfile {W : World} {d : Nat} {s : Schema} {c : Cfg} (l : Option String) (h : Inv W d s c) :
    Inv W d s (c.withKeyfile l) := inv_congr_get (c := c) (c' := c.withKeyfile l) (fun _ => rfl) h

theorem inv_mono {W : World} : ∀ {d : Nat} {s : Schema} {c : Cfg}, Inv W (d + 1) s c → Inv W d s c := by
  intro d
  induction d with
  | zero => exact fun _ => inv_zero W _ _
  | succ d ih =>
    intro s c h
    rw [inv_succ_iff] at h ⊢
    intro k f hf
    have := h k f hf
    generalize c.get k = sl at this ⊢
    unfold SlotOk at this ⊢
    split
    · exact this
    · exact ih this
    · exact ih this
    · exact fun x hx => ih (this x hx)
    · trivial

theorem inv_iff_allLeaves (W : World) (d : Nat) (s : Schema) (c : Cfg) : Inv W d s c ↔ AllLeaves (Held W) d s c := by
  induction d generalizing s c with
  | zero => exact ⟨fun _ => trivial, fun _ => inv_zero W s c⟩
  | succ d ih =>
    have key : ∀ f sl, SlotOk W d f sl ↔ LeavesAt (Held W) d f sl := by
      intro f sl
      -- field class against slot kind: the two predicates have the same clause for every pair, `True` for all but four
      -- (a leaf value: the same `Held`; a sub-configuration, a config type, a list of configurations: by `ih`)
      cases f <;> rcases sl with _ | (v | sub | cs) <;> simp only [SlotOk, LeavesAt]
      · exact ih _ _
      · exact ih _ _
      · exact forall_congr' fun x => ⟨fun h hx => (ih _ x).1 (h hx), fun h hx => (ih _ x).2 (h hx)⟩
    exact forall_congr' fun k => forall_congr' fun f => ⟨fun h hk => (key f _).1 (h hk), fun h hk => (key f _).2 (h hk)⟩

theorem inv_setValue_leaf (W : World) (d fuel : Nat) (s : Schema) (path : String) (c : Cfg) (k : String) (v : Val) (n : Nat)
    (fs : FieldSpec) (m : LeafMeta) (hk : s.get k = some (.leaf fs m)) (hi : Inv W (d + 1) s c) :
    Inv W (d + 1) s (setValue W (fuel + 1) s path c k (.val v) n).cfg := by
  rw [setValue_leaf W fuel s path c k _ n hk]
  cases hv : validate W.fe.toEnv fs (Arg.val v).value with
  | error e => exact hi
  | ok v' =>
    exact slots_of_write (R := SlotOk W d) (Cfg.get_setUser c k · _) hi fun f hf => by
      rw [hk] at hf; cases hf; exact .inr ⟨v, hv⟩

/-- the second condition `inv_build` puts on a schema beside `DefaultsValid` (`Schema.containerDefaultsPlain`), for one leaf: a
    list (dict) field declaring a list (dict) default has no custom validator; `plainFields` asks it of one field list -/
def leafPlain (fs : FieldSpec) (m : LeafMeta) : Bool :=
  match fs.kind, m.default.value with
  | .list _, .list _ => fs.custom.isNone
  | .dict _ _, .dict _ => fs.custom.isNone
  | _, _ => true

def plainFields : List (String × SField) → Bool
  | [] => true
  | (_, .leaf fs m) :: rest => leafPlain fs m && plainFields rest
  | _ :: rest => plainFields rest

/-- at every level, container leaves with container defaults have no custom validator (decidable) -/
def Schema.containerDefaultsPlain (s : Schema) : Bool := s.every plainFields

theorem plainFields_lookup {l : List (String × SField)} {k : String} {fs : FieldSpec} {m : LeafMeta}
    (he : plainFields l = true) (h : lookupField k l = some (.leaf fs m)) : leafPlain fs m = true := by
  induction l with
  | nil => simp [lookupField] at h
  | cons p rest ih =>
    obtain ⟨k', f'⟩ := p
    simp only [lookupField] at h
    split at h
    · cases h
      simp only [plainFields, Bool.and_eq_true] at he
      exact he.1
    · cases f' <;> simp only [plainFields, Bool.and_eq_true] at he
      · exact ih he.2 h
      all_goals exact ih he h

/-- everything `build` needs of a schema, to depth `d` -/
def SchemaOk (W : World) (d : Nat) (s : Schema) : Prop :=
  DefaultsValid W d s ∧ s.keysNodup = true ∧ s.containerDefaultsPlain = true

/-- what `SchemaOk W (d + 1) s` says of one declared field (`schemaOk_get`): the clause of `DefaultsValid` for it — the match of
    Config/Inv.lean, the challenge clause included — with `leafPlain` for a leaf and `SchemaOk` in place of `DefaultsValid` below -/
def FieldOk (W : World) (d : Nat) : SField → Prop
  | .leaf fs m => (Held W fs m.default.value ∧
          (match fs.kind, m.default.value with
           | .challenge _, .str _ => False
           | _, _ => True)) ∧ leafPlain fs m = true
  | .sub s' => SchemaOk W d s'
  | .ctype s' _ => SchemaOk W d s'
  | .cfgList s' _ _ m => SchemaOk W d s' ∧ (m.default.value = .none ∨ m.default.value = .list [])
  | .virtual _ _ => True
  | .method => True

theorem schemaOk_get {W : World} {d : Nat} {s : Schema} {k : String} {f : SField}
    (h : SchemaOk W (d + 1) s) (hf : s.get k = some f) : FieldOk W d f := by
  obtain ⟨hdv, hnd, hpl⟩ := h
  have h1 := hdv k f hf
  have h2 := everyFields_lookup (every_iff.mp hnd).2 hf
  have h3 := everyFields_lookup (every_iff.mp hpl).2 hf
  cases f with
  | leaf fs m => exact ⟨h1, plainFields_lookup (every_iff.mp hpl).1 hf⟩
  | sub s' | ctype s' kf => exact ⟨h1, h2, h3⟩
  | cfgList s' it req m => exact ⟨⟨h1.1, h2, h3⟩, h1.2⟩
  | _ => trivial

theorem schemaOk_mono {W : World} : ∀ {d : Nat} {s : Schema}, SchemaOk W (d + 1) s → SchemaOk W d s := by
  intro d
  induction d with
  | zero => exact fun h => ⟨by unfold DefaultsValid; trivial, h.2⟩
  | succ d ih =>
    intro s h
    refine ⟨?_, h.2⟩
    intro k f hf
    have h1 := schemaOk_get h hf
    cases f with
    | leaf fs m => exact h1.1
    | sub s' | ctype s' kf => exact (ih h1).1
    | cfgList s' it req m => exact ⟨(ih h1.1).1, h1.2⟩
    | _ => trivial

/-- the hypothesis on `build` at the depth below, as used by `setDefault` for nested schemas -/
def BuildInv (W : World) (d : Nat) : Prop :=
  ∀ (path : String) (linked : Bool) (kf : Option String) (s : Schema) (n : Nat) (c : Cfg) (n' : Nat),
    SchemaOk W d s → build W path linked kf s n = .ok (c, n') → Inv W d s c

open Defined in
theorem leafDefault_held {W : World} {d : Nat} {path k : String} {fs : FieldSpec} {m : LeafMeta} {v : Val}
    (hf : FieldOk W d (.leaf fs m)) (h : leafDefault W path k fs m = .ok v) : Held W fs v := by
  obtain ⟨⟨hheld, hch⟩, hpl⟩ := hf
  obtain ⟨kind, req, cust⟩ := fs
  unfold leafDefault at h
  simp only [FieldSpec.kind] at h hch
  split at h
  next item =>
    -- `ListField.__setdefault__`: a list default is stored after its items were validated again
    split at h
    next xs hd =>
      have hc : cust = none := by simpa [leafPlain, FieldSpec.kind, FieldSpec.custom, hd] using hpl
      subst hc
      rw [hd] at hheld
      split at h
      · cases h; exact hheld
      next hvi => cases h; exact hheld.imp (fun h0 => by cases h0) fun ⟨u, hu⟩ => ⟨_, validate_list_again hu hvi⟩
      · cases h
    · cases h; exact hheld
  next kf vf =>
    -- `DictField.__setdefault__`: the same for the entries of a dict default
    split at h
    next kvs hd =>
      have hc : cust = none := by simpa [leafPlain, FieldSpec.kind, FieldSpec.custom, hd] using hpl
      subst hc
      rw [hd] at hheld
      split at h
      · cases h; exact hheld
      next hne =>
        split at h
        next hme =>
          cases h
          exact hheld.imp (fun h0 => by cases h0) fun ⟨u, hu⟩ => ⟨_, validate_dict_again hu (Bool.eq_false_iff.mpr hne) hme⟩
        · cases h
    · cases h; exact hheld
  next alg =>
    -- `ChallengeField.__setdefault__`: the validated environment text, nothing, or a digest default (a text default is excluded)
    split at h
    · split at h
      next hval => cases h; exact .inr ⟨_, hval⟩
      · cases h
    · cases h; exact .inl rfl
    next hd => simp only [hd] at hch
    next hd => cases h; rw [hd] at hheld; exact hheld
    · cases h
  · -- `Field.__setdefault__`: the validated environment text, or the declared default
    split at h
    · split at h
      next hval =>
        split at h
        · cases h; exact hheld
        · cases h; exact .inr ⟨_, hval⟩
      · cases h
    · cases h; exact hheld

theorem defaultStored_ok {W : World} {d : Nat} (hb : BuildInv W d) {path k : String} {f : SField} {o : Option Slot}
    (hf : FieldOk W d f) (h : DefaultStored W path k f o) : SlotOk W d f o := by
  cases h with
  | leaf fs m v hv => exact leafDefault_held hf hv
  | built f s' kf n fresh n' hs hb' => rcases subSchema_some hs with rfl | rfl <;> exact hb _ _ _ _ _ _ _ hf hb'
  | empty => exact fun x hx => nomatch hx
  | unset => trivial
  | nothing f _ => cases f <;> trivial

theorem inv_build_schemaOk (W : World) (d : Nat) : BuildInv W d := by
  induction d with
  | zero => exact fun _ _ _ s _ c _ _ _ => inv_zero W s c
  | succ d ih =>
    exact fun path linked kf s n c n' hs h => inv_succ_iff.2 fun k f hf =>
      defaultStored_ok ih (schemaOk_get hs hf) (build_get (every_iff.mp hs.2.1).1 h hf)

/-- **`Config(schema)` establishes the invariant.**

Two hypotheses besides `DefaultsValid`; without either the statement is false (`inv_build_needs_keysNodup`, `inv_build_needs_plain`):
* `hnd : s.keysNodup` — `Schema.get` returns the *first* field declared under a key while `buildFields` runs every
  `__setdefault__` in order, so with a duplicate key the slot holds the *last* field's default and `Inv` (which reads the
  first declaration) can fail.
* `hpl : s.containerDefaultsPlain` — `ListField.__setdefault__` / `DictField.__setdefault__` store the default after
  validating its *items* only (no `required` check, no custom validator), and `Held` asks for a result of the whole
  `validate`.  `required` is recovered from `DefaultsValid` (the re-validated container has the same length, see
  `validate_list_again` / `validate_dict_again`); a custom validator cannot be (its result on the re-validated container is
  unconstrained), so list/dict leaves that declare a list/dict default must have `custom = none`.
  Nothing is assumed of other kinds, of container fields without a container default, or of `required`. -/
theorem inv_build (W : World) (d : Nat) (path : String) (linked : Bool) (kf : Option String) (s : Schema) (n : Nat)
    (c : Cfg) (n' : Nat) (hdv : DefaultsValid W d s) (hnd : s.keysNodup = true) (hpl : s.containerDefaultsPlain = true)
    (h : build W path linked kf s n = .ok (c, n')) : Inv W d s c :=
  inv_build_schemaOk W d path linked kf s n c n' ⟨hdv, hnd, hpl⟩ h

/-- **`_set_value` keeps the invariant** (returning or raising), for every amount of fuel: the clause of the field allows the
    slots `_set_value` can store (`setValue_slots`) — a configuration made from a map was built (`inv_build_schemaOk`) and
    then loaded by `_set_value`s with less fuel. -/
theorem inv_setValue_schemaOk (W : World) (d fuel : Nat) (s : Schema) (path : String) (c : Cfg) (k : String) (a : Arg) (n : Nat)
    (hs : SchemaOk W (d + 1) s) (ha : ArgOk W d s k a) (hi : Inv W (d + 1) s c) :
    Inv W (d + 1) s (setValue W fuel s path c k a n).cfg := by
  induction fuel using Nat.strongRecOn generalizing d s path c k a n with
  | ind fuel ih =>
    refine setValue_slots (R := SlotOk W d) W fuel s path c k a n hi fun f sl hf hsl => ?_
    have hmade : ∀ {fuel' s' kf x}, fuel' < fuel → SchemaOk W d s' → Rebuilt W fuel' s' kf x → Inv W d s' x := by
      intro fuel' s' kf x hlt hs' hx
      cases d with
      | zero => exact inv_zero W s' x
      | succ d =>
        exact hx.induction (fun _ _ _ _ hb => inv_build_schemaOk W _ _ _ _ _ _ _ _ hs' hb)
          fun p c k v n hc => ih fuel' hlt d s' p c k (.val v) n hs' trivial hc
    have hfo := schemaOk_get hs hf
    cases hsl with
    | leaf _ fs m v hv => exact .inr ⟨_, hv⟩
    | unset => trivial
    | items fuel' s' it req m cs hcs => exact fun x hx => hmade (Nat.lt_succ_self _) hfo.1 (hcs x hx)
    | sub fuel' _ s' kf sl hf' hsub =>
      obtain ⟨hs', hslot⟩ : SchemaOk W d s' ∧ ∀ x, Inv W d s' x → SlotOk W d f (some (.node x)) := by
        rcases subSchema_some hf' with rfl | rfl <;> exact ⟨hfo, fun x hx => hx⟩
      cases hsub with
      | given sub =>
        refine hslot _ (inv_congr_get (c := sub) (c' := sub.withLinked true) (fun _ => rfl) ?_)
        rcases subSchema_some hf' with rfl | rfl
        · exact ha s' none (.inl hf)
        · exact ha s' kf (.inr hf)
      | made kvs x hx => exact hslot x (hmade (Nat.lt_succ_self _) hs' hx)

/-- **`_set_value` keeps the invariant for every argument that respects it, whether it returns or raises.**
    Extra hypotheses (needed because a map assigned to a sub-configuration slot, or a list of maps assigned to a list of
    configurations, goes through `build`): `DefaultsValid` at the same depth, and the two schema conditions of `inv_build`. -/
theorem inv_setValue (W : World) (d fuel : Nat) (s : Schema) (path : String) (c : Cfg) (k : String) (a : Arg) (n : Nat)
    (hdv : DefaultsValid W (d + 1) s) (hnd : s.keysNodup = true) (hpl : s.containerDefaultsPlain = true)
    (ha : ArgOk W d s k a) (hi : Inv W (d + 1) s c) : Inv W (d + 1) s (setValue W fuel s path c k a n).cfg :=
  inv_setValue_schemaOk W d fuel s path c k a n ⟨hdv, hnd, hpl⟩ ha hi

/-- **`load_tree` keeps the invariant, whether it returns or raises** (at the failing entry the entries before it are loaded). -/
theorem inv_loadTree (W : World) (d fuel : Nat) (s : Schema) (path : String) (c : Cfg) (entries : List (Val × Val))
    (doValidate : Bool) (n : Nat)
    (hdv : DefaultsValid W (d + 1) s) (hnd : s.keysNodup = true) (hpl : s.containerDefaultsPlain = true)
    (hi : Inv W (d + 1) s c) : Inv W (d + 1) s (loadTree W fuel s path c entries doValidate n).cfg :=
  loadTree_induction W fuel s path entries
    (fun c k v n _ hc => inv_setValue_schemaOk W d fuel s path c k (.val v) n ⟨hdv, hnd, hpl⟩ trivial hc) c doValidate n hi

/-- `d - 1` is the depth below `d`, truncated so that `d = 0`, where nothing is claimed, needs no case of its own -/
theorem inv_set_node {W : World} {s s' : Schema} {kf : Option String} {c sub x : Cfg} {key : String} {f : SField}
    (hk : s.get key = some f) (hss : subSchema f = some (s', kf)) (hget : c.get key = some (.node sub)) {d : Nat}
    (hs : SchemaOk W d s) (hi : Inv W d s c) (hx : SchemaOk W (d - 1) s' → Inv W (d - 1) s' sub → Inv W (d - 1) s' x) :
    Inv W d s (c.set key (.node x)) := by
  cases d with
  | zero => exact inv_zero W s _
  | succ d =>
    have h1 := schemaOk_get hs hk
    have h2 := hi key f hk
    rw [hget] at h2
    refine slots_of_write (R := SlotOk W d) (Cfg.get_set c key · _) hi fun f' hf' => ?_
    rw [hk] at hf'; cases hf'
    rcases subSchema_some hss with rfl | rfl <;> exact hx h1 h2

/-- **`config["a.b.c"] = a` keeps the invariant, whether it returns or raises** — for a configuration object under the (crude)
    premise that it respects the invariant for whichever slot along the path ends up receiving it -/
theorem inv_setItem_cfg (W : World) (d fuel : Nat) (s : Schema) (path : String) (c : Cfg) (dotted : List Char) (a : Arg) (n : Nat)
    (hdv : DefaultsValid W d s) (hnd : s.keysNodup = true) (hpl : s.containerDefaultsPlain = true)
    (ha : ∀ d' s' k', d' < d → ArgOk W d' s' k' a)
    (hi : Inv W d s c) : Inv W d s (setItem W fuel s path c dotted a n).cfg := by
  refine setItem_induction W a n
    (P := fun s c _ o => ∀ d, SchemaOk W d s → (∀ d' s' k', d' < d → ArgOk W d' s' k' a) → Inv W d s c → Inv W d s o.cfg)
    ?_ (fun _ _ _ _ _ _ _ hi => hi) ?_ fuel s path c dotted d ⟨hdv, hnd, hpl⟩ ha hi
  · intro fuel s path c k d hs ha hi
    cases d with
    | zero => exact inv_zero W s _
    | succ d => exact inv_setValue_schemaOk W d fuel s path c k a n hs (ha d s k (Nat.lt_succ_self d)) hi
  · intro s c key f s' kf sub _ o hk hss hget ih d hs ha hi
    exact inv_set_node hk hss hget hs hi fun hs' hsub => ih (d - 1) hs' (fun d' s'' k' h => ha d' s'' k' (by omega)) hsub

/-- **`config["a.b.c"] = value` keeps the invariant for plain values, whether it returns or raises.** -/
theorem inv_setItem (W : World) (d fuel : Nat) (s : Schema) (path : String) (c : Cfg) (dotted : List Char) (v : Val) (n : Nat)
    (hdv : DefaultsValid W d s) (hnd : s.keysNodup = true) (hpl : s.containerDefaultsPlain = true)
    (hi : Inv W d s c) : Inv W d s (setItem W fuel s path c dotted (.val v) n).cfg :=
  inv_setItem_cfg W d fuel s path c dotted (.val v) n hdv hnd hpl (fun _ _ _ _ => trivial) hi

theorem inv_setDefault_field {W : World} {d : Nat} {s : Schema} {path k : String} {f : SField} {c c1 : Cfg} {n n1 : Nat}
    (hs : SchemaOk W d s) (hk : s.get k = some f) (hi : Inv W d s c)
    (h : setDefault W path k f c n = .ok (c1, n1)) : Inv W d s c1 := by
  cases d with
  | zero => exact inv_zero W s _
  | succ d =>
    obtain ⟨_ | sl, ho, rfl⟩ := setDefault_ok.1 h
    · exact hi
    · refine slots_of_write (R := SlotOk W d) (Cfg.get_setDefault c k · sl) hi fun f' hf' => ?_
      rw [hk] at hf'; cases hf'
      exact defaultStored_ok (inv_build_schemaOk W d) (schemaOk_get hs hk) (defaultSlot_cases ho)

/-- **`reset_value(config, "a.b.c")` keeps the invariant, whether it returns or raises.** -/
theorem inv_resetValue (W : World) (d fuel : Nat) (s : Schema) (c : Cfg) (dotted : List Char) (n : Nat)
    (hdv : DefaultsValid W d s) (hnd : s.keysNodup = true) (hpl : s.containerDefaultsPlain = true)
    (hi : Inv W d s c) : Inv W d s (resetValue W fuel s c dotted n).cfg := by
  have hs : SchemaOk W d s := ⟨hdv, hnd, hpl⟩
  unfold resetValue
  cases hw : walk fuel s "" c dotted with
  | none => exact hi
  | some r =>
    obtain ⟨s', path, owner, k⟩ := r
    -- the owner's replacement keeps the owner's invariant: then so does every configuration up the path
    have up : ∀ g : Cfg → Cfg, (∀ d', SchemaOk W d' s' → Inv W d' s' owner → Inv W d' s' (g owner)) →
        Inv W d s (replaceAt fuel c dotted g) := fun g hg =>
      replaceAt_induction g (P := fun s c c' => ∀ d, SchemaOk W d s → Inv W d s c → Inv W d s c') hg
        (fun s c key f s1 kf sub x hk hss hget ih d hs hi => inv_set_node hk hss hget hs hi (ih (d - 1)))
        fuel s "" c dotted path k hw d hs hi
    simp only
    cases hg : getField s' owner k with
    | missing => exact hi
    | dynamic =>
      have hk : s'.get k = none := getField_not_declared (fun f h => by rw [hg] at h; cases h)
      refine up _ fun d' _ ho => ?_
      cases d' with
      | zero => exact inv_zero W s' _
      | succ d' => exact slots_of_write (R := SlotOk W d') (Cfg.get_setDefault owner k · _) ho fun f hf => by rw [hk] at hf; cases hf
    | declared f =>
      simp only
      cases hsd : setDefault W path k f owner n with
      | error e => exact hi
      | ok r => exact up _ fun d' hs' ho => inv_setDefault_field hs' (getField_declared hg) ho hsd

/-! The two schema hypotheses of `inv_build` are necessary.

Without `keysNodup` (any world) and without `containerDefaultsPlain` (a world whose catalogue validator "c" maps
`[True]` to `[1]` and rejects everything else) the statement `DefaultsValid → build = ok c → Inv` fails at depth 1. -/

def dupSchema : Schema :=
  .mk [("a", .leaf (.mk .bool false none) { default := .const (.bool true) }),
       ("a", .leaf (.mk .any false none) { default := .const (.int 7) })] false []

theorem boolField_not_int (E : Env) (u : Val) (i : Int) : validate E (.mk .bool false none) u ≠ .ok (.int i) := by
  intro h
  rcases validate_inv_nc h with ⟨_, _, h0⟩ | ⟨_, hk⟩
  · cases h0
  · obtain ⟨b, hb⟩ := boolRule_shape (v0 := u) hk
    cases hb

theorem inv_build_needs_keysNodup (W : World) :
    DefaultsValid W 1 dupSchema ∧ dupSchema.containerDefaultsPlain = true ∧
    ∃ c n', build W "" false none dupSchema 0 = .ok (c, n') ∧ ¬ Inv W 1 dupSchema c := by
  refine ⟨?_, by decide, ?_⟩
  · intro k f hf
    simp only [dupSchema, Schema.get, Schema.fields, lookupField] at hf
    split at hf
    · cases hf
      exact ⟨Or.inr ⟨.bool true, rfl⟩, trivial⟩
    · simp at hf
  · refine ⟨_, _, rfl, ?_⟩
    intro hi
    have := hi "a" _ rfl
    rcases this with h | ⟨u, hu⟩
    · cases h
    · exact boolField_not_int _ _ _ hu

/-- empty environment, inert primitives, one custom validator "c" (it maps `[True]` to `[1]` and rejects everything else); also
    the base world of the C12b / C14b demonstrations -/
def cexWorld : World where
  environ := fun _ => none
  fe := { parseFloat := fun _ => none, fsKind := fun _ => .absent, isabs := fun _ => false, resolve := fun _ t => t,
          urlOk := fun _ => false, salt := fun _ => [], hash := fun _ b => b, utf8 := fun _ => [],
          custom := fun _ v => match v with
            | .list [.bool true] => .ok (.list [.int 1])
            | _ => .error .value,
          encryptS := fun _ _ => none, decryptS := fun _ => none }

def cexField : FieldSpec := .mk (.list (some (.mk .bool false none))) false (some "c")

def cexSchema : Schema := .mk [("l", .leaf cexField { default := .const (.list [.int 1]) })] false []

theorem cexField_never (u : Val) : validate cexWorld.fe.toEnv cexField u ≠ .ok (.list [.bool true]) := by
  intro h
  by_cases hu : u = .none
  · subst hu
    cases (validate_none_ok h).2
  · rw [cexField, validate_of_ne_none _ _ _ _ _ hu] at h
    split at h
    · cases h
    · simp only [cexWorld] at h
      split at h <;> cases h

theorem inv_build_needs_plain :
    DefaultsValid cexWorld 1 cexSchema ∧ cexSchema.keysNodup = true ∧
    ∃ c n', build cexWorld "" false none cexSchema 0 = .ok (c, n') ∧ ¬ Inv cexWorld 1 cexSchema c := by
  refine ⟨?_, by decide, ?_⟩
  · intro k f hf
    simp only [cexSchema, Schema.get, Schema.fields, lookupField] at hf
    split at hf
    · cases hf
      exact ⟨Or.inr ⟨.list [.int 1], rfl⟩, trivial⟩
    · cases hf
  · refine ⟨_, _, rfl, ?_⟩
    intro hi
    have := hi "l" _ rfl
    rcases this with h | ⟨u, hu⟩
    · cases h
    · exact cexField_never _ hu

end Cinco.Config
