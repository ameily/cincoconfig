import Cinco.Field.Codec
/-
  Lemmas of the field-level definitions that every proof about fields uses.  The list / dict combinators and the container
  branches of `validateKind` are each characterised once, as an equation of `List.map`s or an iff; their other facts are read
  off that.  What other files take from here besides: `validate_inv` / `validate_inv_nc` (what an accepted result says about
  the input) and the induction on declarations, `FieldSpec.induct` / `FieldSpec.inductOpt` over `Kind.subs`.
  Imports only the model, so that every proof module can import it.
-/
namespace Cinco

theorem Except.map_eq_ok {ε α β : Type} {g : α → β} {x : Except ε α} {b : β} : x.map g = .ok b ↔ ∃ a, x = .ok a ∧ g a = b := by
  cases x with
  | error e => exact ⟨fun h => (by cases h), fun ⟨a, h, _⟩ => (by cases h)⟩
  | ok a => exact ⟨fun h => ⟨a, rfl, (by cases h; rfl)⟩, fun ⟨a', h, hb⟩ => (by cases h; rw [← hb]; rfl)⟩

end Cinco

namespace Cinco.Field
open Cinco

-- Lean derives the equations of a function when a proof first rewrites with them, and again in every later proof unless an
-- imported module holds them already.  Marking the many-alternative functions of the field layer here derives theirs once,
-- for every module (the mark itself ends with this file).
attribute [local simp] toBasic toBasicKind toPython toPythonKind validate validateKind

theorem bind_ok {α β} {x : R α} {f : α → R β} {b : β} (h : x >>= f = .ok b) : ∃ a, x = .ok a ∧ f a = .ok b := by
  cases x with
  | error e => simp [bind, Except.bind] at h
  | ok a => exact ⟨a, rfl, by simpa [bind, Except.bind] using h⟩

theorem mapR_cons_eq_ok {f : Val → R Val} {x : Val} {xs zs : List Val} :
    mapR f (x :: xs) = .ok zs ↔ ∃ y ys, f x = .ok y ∧ mapR f xs = .ok ys ∧ zs = y :: ys := by
  simp only [mapR, bind, Except.bind]
  cases f x with
  | error e => simp
  | ok y => cases mapR f xs <;> simp [eq_comm]

theorem mapR_eq_ok {f : Val → R Val} {xs ys : List Val} : mapR f xs = .ok ys ↔ xs.map f = ys.map .ok := by
  induction xs generalizing ys with
  | nil => cases ys <;> simp [mapR]
  | cons x xs ih =>
    rw [mapR_cons_eq_ok]
    cases ys with
    | nil => simp
    | cons y ys =>
      simp only [List.map_cons, List.cons.injEq, ← ih]
      exact ⟨fun ⟨_, _, hx, hxs, hy, hys⟩ => ⟨hy ▸ hx, hys ▸ hxs⟩, fun ⟨hx, hxs⟩ => ⟨y, ys, hx, hxs, rfl, rfl⟩⟩

theorem mapR_results {f : Val → R Val} {xs ys : List Val} (h : mapR f xs = .ok ys) : ∀ y ∈ ys, ∃ x ∈ xs, f x = .ok y :=
  fun _ hy => List.mem_map.1 (mapR_eq_ok.1 h ▸ List.mem_map_of_mem (f := Except.ok) hy)

theorem mapR_fixed_iff {f : Val → R Val} {xs : List Val} : mapR f xs = .ok xs ↔ ∀ x ∈ xs, f x = .ok x :=
  mapR_eq_ok.trans List.map_inj_left

theorem mapR_length {f : Val → R Val} {xs ys : List Val} (h : mapR f xs = .ok ys) : ys.length = xs.length := by
  simpa using (congrArg List.length (mapR_eq_ok.1 h)).symm

theorem mapR_eq_nil_iff {f : Val → R Val} {xs ys : List Val} (h : mapR f xs = .ok ys) : ys = [] ↔ xs = [] := by
  rw [← List.length_eq_zero_iff, mapR_length h, List.length_eq_zero_iff]

theorem mapR_idem {f : Val → R Val} (hf : ∀ v v', f v = .ok v' → f v' = .ok v') {xs ys : List Val}
    (h : mapR f xs = .ok ys) : mapR f ys = .ok ys :=
  mapR_fixed_iff.2 fun y hy => let ⟨x, _, hx⟩ := mapR_results h y hy; hf x y hx

theorem mapR_nodup {f : Val → R Val} {xs ys : List Val} (h : mapR f xs = .ok ys) (hy : ys.Nodup) : xs.Nodup := by
  have : (xs.map f).Pairwise (· ≠ ·) := by
    rw [mapR_eq_ok.1 h, List.pairwise_map]
    exact hy.imp (fun hne e => hne (Except.ok.inj e))
  exact (List.pairwise_map.1 this).imp (fun hne e => hne (congrArg f e))

/-- encode every item, decode every item, validate every item: if each item survives, so does the list -/
theorem mapR_pipeline {f g h : Val → R Val} {xs bs : List Val}
    (hall : ∀ x ∈ xs, ∀ b, f x = .ok b → (g b).bind h = .ok x) (hm : mapR f xs = .ok bs) :
    ∃ ds, mapR g bs = .ok ds ∧ mapR h ds = .ok xs := by
  induction xs generalizing bs with
  | nil => simp [mapR] at hm; cases hm; exact ⟨[], rfl, rfl⟩
  | cons x xs ih =>
    obtain ⟨b, bs', hx, hxs, rfl⟩ := mapR_cons_eq_ok.1 hm
    obtain ⟨ds, hg, hh⟩ := ih (fun y hy => hall y (List.mem_cons_of_mem _ hy)) hxs
    obtain ⟨d, hgb, h1⟩ := bind_ok (hall x (by simp) b hx)
    exact ⟨d :: ds, mapR_cons_eq_ok.2 ⟨d, ds, hgb, hg, rfl⟩, mapR_cons_eq_ok.2 ⟨x, xs, h1, hh, rfl⟩⟩

/-- the model writes `kvs.map (·.1)` inline -/
def keysD (es : List (Val × Val)) : List Val := es.map (·.1)

/-- the model has the dict combinator twice: `mapPairs` written with `match`, `mapEntries` with `do` -/
theorem mapPairs_eq_mapEntries (fk fv : Val → R Val) (es : List (Val × Val)) : mapPairs fk fv es = mapEntries fk fv es := by
  induction es with
  | nil => rfl
  | cons e rest ih =>
    obtain ⟨k, v⟩ := e
    simp only [mapPairs, mapEntries, ih, bind, Except.bind]
    cases fk k <;> cases fv v <;> cases mapEntries fk fv rest <;> rfl

theorem mapEntries_cons_eq_ok {fk fv : Val → R Val} {k v : Val} {rest es : List (Val × Val)} :
    mapEntries fk fv ((k, v) :: rest) = .ok es ↔
      ∃ k' v' rest', fk k = .ok k' ∧ fv v = .ok v' ∧ mapEntries fk fv rest = .ok rest' ∧ es = (k', v') :: rest' := by
  simp only [mapEntries]
  cases fk k with
  | error e => simp
  | ok k' =>
    cases fv v with
    | error e => simp
    | ok v' => cases mapEntries fk fv rest <;> simp [bind, Except.bind, eq_comm]

theorem mapEntries_eq_ok {fk fv : Val → R Val} {es es' : List (Val × Val)} : mapEntries fk fv es = .ok es' ↔
    es.map (fun e => (fk e.1, fv e.2)) = es'.map (fun e => (.ok e.1, .ok e.2)) := by
  induction es generalizing es' with
  | nil => cases es' <;> simp [mapEntries]
  | cons e rest ih =>
    obtain ⟨k, v⟩ := e
    cases es' with
    | nil => simp [mapEntries_cons_eq_ok]
    | cons e' rest' =>
      obtain ⟨k', v'⟩ := e'
      simp only [List.map_cons, List.cons.injEq, Prod.mk.injEq, ← ih, mapEntries_cons_eq_ok]
      constructor
      · rintro ⟨_, _, _, hk, hv, hr, ⟨⟨rfl, rfl⟩, rfl⟩⟩
        exact ⟨⟨hk, hv⟩, hr⟩
      · rintro ⟨⟨hk, hv⟩, hr⟩
        exact ⟨_, _, _, hk, hv, hr, ⟨rfl, rfl⟩, rfl⟩

theorem mapEntries_results {fk fv : Val → R Val} {es es' : List (Val × Val)} (h : mapEntries fk fv es = .ok es') :
    ∀ kv' ∈ es', ∃ kv ∈ es, fk kv.1 = .ok kv'.1 ∧ fv kv.2 = .ok kv'.2 := by
  intro kv' hkv'
  obtain ⟨kv, hkv, he⟩ := List.mem_map.1
    (mapEntries_eq_ok.1 h ▸ List.mem_map_of_mem (f := fun e : Val × Val => ((Except.ok e.1 : R Val), (Except.ok e.2 : R Val))) hkv')
  exact ⟨kv, hkv, (Prod.mk.inj he).1, (Prod.mk.inj he).2⟩

theorem mapPairs_results {fk fv : Val → R Val} {es es' : List (Val × Val)} (h : mapPairs fk fv es = .ok es') :
    ∀ kv' ∈ es', ∃ kv ∈ es, fk kv.1 = .ok kv'.1 ∧ fv kv.2 = .ok kv'.2 :=
  mapEntries_results (mapPairs_eq_mapEntries fk fv es ▸ h)

theorem mapEntries_fixed_iff {fk fv : Val → R Val} {es : List (Val × Val)} :
    mapEntries fk fv es = .ok es ↔ ∀ kv ∈ es, fk kv.1 = .ok kv.1 ∧ fv kv.2 = .ok kv.2 := by
  rw [mapEntries_eq_ok, List.map_inj_left]
  simp only [Prod.mk.injEq]

theorem mapEntries_length {fk fv : Val → R Val} {es es' : List (Val × Val)} (h : mapEntries fk fv es = .ok es') :
    es'.length = es.length := by
  simpa using (congrArg List.length (mapEntries_eq_ok.1 h)).symm

theorem mapEntries_eq_nil_iff {fk fv : Val → R Val} {es es' : List (Val × Val)} (h : mapEntries fk fv es = .ok es') :
    es' = [] ↔ es = [] := by
  rw [← List.length_eq_zero_iff, mapEntries_length h, List.length_eq_zero_iff]

theorem mapEntries_keys {fk fv : Val → R Val} {es es' : List (Val × Val)} (h : mapEntries fk fv es = .ok es') :
    mapR fk (keysD es) = .ok (keysD es') := by
  simpa [mapR_eq_ok, keysD, Function.comp_def] using congrArg (List.map Prod.fst) (mapEntries_eq_ok.1 h)

theorem mapEntries_pipeline {fk fv gk gv hk hv : Val → R Val} {kvs bs : List (Val × Val)}
    (hall : ∀ kv ∈ kvs, (∀ b, fk kv.1 = .ok b → (gk b).bind hk = .ok kv.1) ∧ (∀ b, fv kv.2 = .ok b → (gv b).bind hv = .ok kv.2))
    (hm : mapEntries fk fv kvs = .ok bs) : ∃ ds, mapEntries gk gv bs = .ok ds ∧ mapEntries hk hv ds = .ok kvs := by
  induction kvs generalizing bs with
  | nil => simp [mapEntries] at hm; cases hm; exact ⟨[], rfl, rfl⟩
  | cons e rest ih =>
    obtain ⟨k, v⟩ := e
    obtain ⟨bk, bv, bs', hfk, hfv, hr, rfl⟩ := mapEntries_cons_eq_ok.1 hm
    obtain ⟨ds, hg, hh⟩ := ih (fun kv h => hall kv (List.mem_cons_of_mem _ h)) hr
    obtain ⟨dk, hgk, h1⟩ := bind_ok ((hall (k, v) (by simp)).1 bk hfk)
    obtain ⟨dv, hgv, h2⟩ := bind_ok ((hall (k, v) (by simp)).2 bv hfv)
    exact ⟨(dk, dv) :: ds, mapEntries_cons_eq_ok.2 ⟨_, _, _, hgk, hgv, hg, rfl⟩, mapEntries_cons_eq_ok.2 ⟨_, _, _, h1, h2, hh, rfl⟩⟩

theorem dictSet_keys_mem {k : Val} (v : Val) {d : List (Val × Val)} (h : k ∈ keysD d) : keysD (dictSet k v d) = keysD d := by
  induction d with
  | nil => simp [keysD] at h
  | cons e rest ih =>
    obtain ⟨k', v'⟩ := e
    by_cases hk : k' = k
    · simp [dictSet, keysD, hk]
    · have hm : k ∈ keysD rest := by
        simp only [keysD, List.map_cons, List.mem_cons] at h
        rcases h with h | h
        · exact absurd h.symm hk
        · exact h
      simp only [dictSet, beq_iff_eq, hk, if_false, keysD, List.map_cons, List.cons.injEq, true_and]
      exact ih hm

theorem dictSet_not_mem {k : Val} (v : Val) {d : List (Val × Val)} (h : k ∉ keysD d) : dictSet k v d = d ++ [(k, v)] := by
  induction d with
  | nil => rfl
  | cons e rest ih =>
    obtain ⟨k', v'⟩ := e
    simp only [keysD, List.map_cons, List.mem_cons, not_or] at h
    have hk : ¬ k' = k := fun e => h.1 e.symm
    simp only [dictSet, beq_iff_eq, hk, if_false, List.cons_append, List.cons.injEq, true_and]
    exact ih h.2

theorem dictSet_keys_nodup {k v : Val} {d : List (Val × Val)} (h : (keysD d).Nodup) : (keysD (dictSet k v d)).Nodup := by
  by_cases hm : k ∈ keysD d
  · rw [dictSet_keys_mem v hm]; exact h
  · rw [dictSet_not_mem v hm]
    simp only [keysD, List.map_append, List.map_cons, List.map_nil]
    refine List.nodup_append.2 ⟨h, by simp, ?_⟩
    intro a ha b hb hab
    simp at hb; subst hb; subst hab
    exact hm ha

theorem dictSet_ne_nil (k v : Val) (d : List (Val × Val)) : dictSet k v d ≠ [] := by
  cases d with
  | nil => simp [dictSet]
  | cons e rest => simp only [dictSet]; split <;> simp

/-- no converse: an overwritten entry is gone -/
theorem mem_dictSet {k v : Val} {x : Val × Val} {d : List (Val × Val)} (h : x ∈ dictSet k v d) : x ∈ d ∨ x = (k, v) := by
  induction d with
  | nil => exact Or.inr (List.mem_singleton.1 h)
  | cons e rest ih =>
    simp only [dictSet] at h
    split at h
    · rename_i hk
      rcases List.mem_cons.1 h with rfl | h
      · exact Or.inr (by rw [eq_of_beq hk])
      · exact Or.inl (List.mem_cons_of_mem _ h)
    · rcases List.mem_cons.1 h with rfl | h
      · exact Or.inl List.mem_cons_self
      · exact (ih h).imp_left (List.mem_cons_of_mem _)

theorem foldl_dictSet_append (es acc : List (Val × Val)) (hn : (keysD es).Nodup) (hd : ∀ k ∈ keysD es, k ∉ keysD acc) :
    es.foldl (fun a (kv : Val × Val) => dictSet kv.1 kv.2 a) acc = acc ++ es := by
  induction es generalizing acc with
  | nil => simp
  | cons e rest ih =>
    obtain ⟨k, v⟩ := e
    simp only [keysD, List.map_cons, List.nodup_cons] at hn
    have hk : k ∉ keysD acc := hd k (by simp [keysD])
    simp only [List.foldl_cons]
    rw [dictSet_not_mem v hk, ih _ hn.2]
    · simp
    · intro k' hk' hmem
      simp only [keysD, List.map_append, List.map_cons, List.map_nil, List.mem_append, List.mem_singleton] at hmem
      rcases hmem with hmem | hmem
      · exact hd k' (by simp only [keysD, List.map_cons, List.mem_cons]; exact Or.inr hk') hmem
      · subst hmem; exact hn.1 hk'

theorem foldl_dictSet_append_or_lt (es acc : List (Val × Val)) :
    es.foldl (fun a (kv : Val × Val) => dictSet kv.1 kv.2 a) acc = acc ++ es ∨
      (es.foldl (fun a (kv : Val × Val) => dictSet kv.1 kv.2 a) acc).length < acc.length + es.length := by
  induction es generalizing acc with
  | nil => exact .inl (List.append_nil _).symm
  | cons e rest ih =>
    obtain ⟨k, v⟩ := e
    simp only [List.foldl_cons, List.length_cons]
    by_cases hm : k ∈ keysD acc
    · have hl : (dictSet k v acc).length = acc.length := by
        simpa [keysD] using congrArg List.length (dictSet_keys_mem v hm)
      refine .inr ?_
      rcases ih (dictSet k v acc) with h | h
      · rw [h, List.length_append, hl]; omega
      · omega
    · rw [dictSet_not_mem v hm]
      refine (ih (acc ++ [(k, v)])).imp (fun h => by rw [h, List.append_assoc]; rfl) fun h => ?_
      rw [List.length_append, List.length_singleton] at h
      omega

theorem buildDict_nodup (es : List (Val × Val)) : (keysD (buildDict es)).Nodup :=
  List.foldlRecOn (motive := fun d => (keysD d).Nodup) es _ (by simp [keysD]) fun _ h _ _ => dictSet_keys_nodup h

theorem buildDict_forall {P Q : Val → Prop} {es : List (Val × Val)} (h : ∀ kv ∈ es, P kv.1 ∧ Q kv.2) :
    ∀ kv ∈ buildDict es, P kv.1 ∧ Q kv.2 :=
  List.foldlRecOn (motive := fun d : List (Val × Val) => ∀ kv ∈ d, P kv.1 ∧ Q kv.2) es _ (by simp)
    fun _ ha e he kv hkv => (mem_dictSet hkv).elim (ha kv) fun hx => hx ▸ h e he

theorem buildDict_eq_nil_iff {es : List (Val × Val)} : buildDict es = [] ↔ es = [] := by
  cases es with
  | nil => exact ⟨fun _ => rfl, fun _ => rfl⟩
  | cons e es =>
    exact ⟨fun h => absurd h (List.foldlRecOn (motive := (· ≠ [])) es _ (dictSet_ne_nil e.1 e.2 [])
      fun _ _ e' _ => dictSet_ne_nil e'.1 e'.2 _), nofun⟩

theorem buildDict_of_nodup (es : List (Val × Val)) (h : (keysD es).Nodup) : buildDict es = es :=
  (foldl_dictSet_append es [] h (by simp [keysD])).trans (List.nil_append es)

/-- for keys not yet known to be distinct: no entry was lost, so none was overwritten -/
theorem buildDict_eq_of_length (es : List (Val × Val)) (h : (buildDict es).length = es.length) : buildDict es = es :=
  (foldl_dictSet_append_or_lt es []).elim (·.trans (List.nil_append es)) fun hlt => by
    rw [List.length_nil, Nat.zero_add] at hlt
    exact absurd h (Nat.ne_of_lt hlt)

theorem validate_of_ne_none (E : Env) (k : Kind) (req : Bool) (c : Option String) (v : Val) (hv : v ≠ .none) :
    validate E (.mk k req c) v =
      (match validateKind E k req v with
       | .error e => .error e
       | .ok v' => match c with
          | some name => E.custom name v'
          | none => .ok v') := by
  cases v with
  | none => exact absurd rfl hv
  | _ => rfl

theorem validate_none_eq (E : Env) (k : Kind) (req : Bool) (c : Option String) :
    validate E (.mk k req c) .none = if req then .error .value else .ok .none := by
  cases req <;> rfl

theorem validate_none_ok {E : Env} {k : Kind} {req : Bool} {c : Option String} {v : Val}
    (h : validate E (.mk k req c) .none = .ok v) : req = false ∧ v = .none := by
  rw [validate_none_eq] at h
  cases req <;> cases h
  exact ⟨rfl, rfl⟩

theorem validate_inv {E : Env} {k : Kind} {req : Bool} {c : Option String} {v w : Val}
    (h : validate E (.mk k req c) v = .ok w) :
    (v = .none ∧ req = false ∧ w = .none) ∨
    (v ≠ .none ∧ ∃ w', validateKind E k req v = .ok w' ∧
      (match c with | none => w = w' | some name => E.custom name w' = .ok w)) := by
  by_cases hv : v = .none
  · subst hv
    exact Or.inl ⟨rfl, validate_none_ok h⟩
  · refine Or.inr ⟨hv, ?_⟩
    rw [validate_of_ne_none E k req c v hv] at h
    cases hr : validateKind E k req v with
    | error e => simp [hr] at h
    | ok w' =>
      simp only [hr] at h
      refine ⟨w', rfl, ?_⟩
      cases c with
      | none => simp only [Except.ok.injEq] at h; exact h.symm
      | some name => exact h

/-- `nc`: no custom validator -/
theorem validate_inv_nc {E : Env} {k : Kind} {req : Bool} {v w : Val}
    (h : validate E (.mk k req none) v = .ok w) :
    (v = .none ∧ req = false ∧ w = .none) ∨ (v ≠ .none ∧ validateKind E k req v = .ok w) := by
  rcases validate_inv h with h | ⟨hv, w', hk, hw⟩
  · exact Or.inl h
  · simp only at hw
    subst hw
    exact Or.inr ⟨hv, hk⟩

theorem validate_nc_of_kind {E : Env} {k : Kind} {req : Bool} {v w : Val} (hv : v ≠ .none)
    (h : validateKind E k req v = .ok w) : validate E (.mk k req none) v = .ok w := by
  rw [validate_of_ne_none E k req none v hv, h]

/-- an item field that does not type the list: absent, or an `AnyField` -/
def untypedItem : Option FieldSpec → Bool
  | none => true
  | some (.mk k _ _) => k.isAny

theorem validateItems_eq (E : Env) (item : Option FieldSpec) (xs : List Val) :
    validateItems E item xs = if untypedItem item = true then none else some (mapR (fun x => validateOpt E item x) xs) := by
  cases item with
  | none => rfl
  | some f => obtain ⟨k, r, c⟩ := f; rfl

theorem required_guard_eq_ok {α} {req : Bool} {xs : List α} {r : R Val} {w : Val} :
    (if (req && xs.isEmpty) = true then .error .value else r) = .ok w ↔ (req = true → xs ≠ []) ∧ r = .ok w := by
  cases req <;> cases xs <;> simp

/-- the body that the list branch and the tuple branch of `ListField._validate` share, `v` being the value as given -/
private theorem validateKind_list_items {E : Env} {item : Option FieldSpec} {req : Bool} {xs : List Val} {v w : Val} :
    (if (req && xs.isEmpty) = true then .error .value else
        match validateItems E item xs with | none => .ok v | some r => r.map Val.list : R Val) = .ok w ↔
      (req = true → xs ≠ []) ∧
        if untypedItem item = true then w = v else ∃ ys, mapR (fun x => validateOpt E item x) xs = .ok ys ∧ w = .list ys := by
  rw [validateItems_eq, required_guard_eq_ok]
  refine and_congr_right fun _ => ?_
  by_cases hu : untypedItem item = true
  · simp only [if_pos hu]
    exact ⟨fun h => (Except.ok.inj h).symm, fun h => h ▸ rfl⟩
  · simp only [if_neg hu, Except.map_eq_ok]
    exact ⟨fun ⟨ys, h1, h2⟩ => ⟨ys, h1, h2.symm⟩, fun ⟨ys, h1, h2⟩ => ⟨ys, h1, h2.symm⟩⟩

/-- `ListField._validate`; an untyped field returns the value as given, so a tuple stays a tuple -/
theorem validateKind_list_eq_ok {E : Env} {item : Option FieldSpec} {req : Bool} {v w : Val} :
    validateKind E (.list item) req v = .ok w ↔ ∃ xs, (v = .list xs ∨ v = .tuple xs) ∧ (req = true → xs ≠ []) ∧
      if untypedItem item = true then w = v else ∃ ys, mapR (fun x => validateOpt E item x) xs = .ok ys ∧ w = .list ys := by
  simp only [validateKind]
  split
  next xs =>
    exact validateKind_list_items.trans
      ⟨fun h => ⟨xs, .inl rfl, h⟩, fun ⟨ys, hv, h⟩ => by rcases hv with hv | hv <;> cases hv; exact h⟩
  next xs =>
    exact validateKind_list_items.trans
      ⟨fun h => ⟨xs, .inr rfl, h⟩, fun ⟨ys, hv, h⟩ => by rcases hv with hv | hv <;> cases hv; exact h⟩
  next h1 h2 => exact ⟨nofun, fun ⟨xs, hv, _⟩ => (hv.elim (h1 xs) (h2 xs)).elim⟩

theorem validateKind_dict_eq_ok {E : Env} {kf vf : Option FieldSpec} {req : Bool} {v w : Val} :
    validateKind E (.dict kf vf) req v = .ok w ↔ ∃ kvs, v = .dict kvs ∧ (req = true → kvs ≠ []) ∧
      if (kf.isNone && vf.isNone) = true then w = v else
        ∃ es, mapEntries (fun x => validateOpt E kf x) (fun x => validateOpt E vf x) kvs = .ok es ∧ w = .dict (buildDict es) := by
  simp only [validateKind]
  split
  next kvs =>
    simp only [Val.dict.injEq, exists_eq_left', required_guard_eq_ok]
    refine and_congr_right fun _ => ?_
    by_cases hnn : (kf.isNone && vf.isNone) = true
    · simp only [if_pos hnn]
      exact ⟨fun h => (Except.ok.inj h).symm, fun h => h ▸ rfl⟩
    · simp only [if_neg hnn, Except.map_eq_ok]
      exact ⟨fun ⟨es, h1, h2⟩ => ⟨es, h1, h2.symm⟩, fun ⟨es, h1, h2⟩ => ⟨es, h1, h2.symm⟩⟩
  next h => exact ⟨nofun, fun ⟨kvs, hv, _⟩ => (h kvs hv).elim⟩

/-- `validateKind_list_eq_ok` with the input forgotten: the form in which the walks over results (soundness, shape) read it -/
theorem validateKind_list_result {E : Env} {item : Option FieldSpec} {req : Bool} {v w : Val} {P : Val → Prop}
    (hP : ∀ x y, validateOpt E item x = .ok y → P y) (h : validateKind E (.list item) req v = .ok w) :
    ∃ ys, (req = true → ys ≠ []) ∧
      if untypedItem item = true then w = .list ys ∨ w = .tuple ys else w = .list ys ∧ ∀ y ∈ ys, P y := by
  obtain ⟨xs, hv, hne, hw⟩ := validateKind_list_eq_ok.1 h
  split at hw
  next hu => exact ⟨xs, hne, (if_pos hu).mpr (hw ▸ hv)⟩
  next hu =>
    obtain ⟨ys, hm, rfl⟩ := hw
    exact ⟨ys, fun hr => mt (mapR_eq_nil_iff hm).1 (hne hr), (if_neg hu).mpr ⟨rfl, fun y hy =>
      let ⟨x, _, hx⟩ := mapR_results hm y hy; hP x y hx⟩⟩

/-- an absent field returns every value as it is, so `P`, `Q` hold of the entries of an untyped dict too -/
theorem validateKind_dict_result {E : Env} {kf vf : Option FieldSpec} {req : Bool} {v w : Val} {P Q : Val → Prop}
    (hP : ∀ x y, validateOpt E kf x = .ok y → P y) (hQ : ∀ x y, validateOpt E vf x = .ok y → Q y)
    (h : validateKind E (.dict kf vf) req v = .ok w) :
    ∃ kvs, w = .dict kvs ∧ (req = true → kvs ≠ []) ∧ (∀ kv ∈ kvs, P kv.1 ∧ Q kv.2) ∧
      ((kf.isNone && vf.isNone) = false → (keysD kvs).Nodup) := by
  obtain ⟨kvs, rfl, hne, hw⟩ := validateKind_dict_eq_ok.1 h
  split at hw
  next hnn =>
    simp only [Bool.and_eq_true, Option.isNone_iff_eq_none] at hnn
    obtain ⟨rfl, rfl⟩ := hnn
    exact ⟨kvs, hw, hne, fun kv _ => ⟨hP kv.1 kv.1 rfl, hQ kv.2 kv.2 rfl⟩, nofun⟩
  next =>
    obtain ⟨es, hm, rfl⟩ := hw
    exact ⟨_, rfl, fun hr => mt (buildDict_eq_nil_iff.trans (mapEntries_eq_nil_iff hm)).1 (hne hr),
      buildDict_forall fun kv' hkv' => let ⟨kv, _, h1, h2⟩ := mapEntries_results hm kv' hkv'; ⟨hP _ _ h1, hQ _ _ h2⟩,
      fun _ => buildDict_nodup es⟩

/-- re-validation of a held result: a list the field returned, with its items validated once more, is what the field returns
    for it; `hu` only supplies the `required` guard -/
theorem validate_list_again {E : Env} {item : Option FieldSpec} {req : Bool} {u : Val} {xs ys : List Val}
    (hu : validate E (.mk (.list item) req none) u = .ok (.list xs)) (hv : validateItems E item xs = some (.ok ys)) :
    validate E (.mk (.list item) req none) (.list xs) = .ok (.list ys) := by
  rw [validateItems_eq] at hv
  split at hv
  · cases hv
  next hut =>
    refine validate_nc_of_kind (by simp)
      (validateKind_list_eq_ok.2 ⟨xs, .inl rfl, ?_, by rw [if_neg hut]; exact ⟨ys, Option.some.inj hv, rfl⟩⟩)
    rcases validate_inv_nc hu with ⟨_, _, h⟩ | ⟨_, hk⟩
    · cases h
    · obtain ⟨ys0, hne, hw⟩ := validateKind_list_result (P := fun _ => True) (fun _ _ _ => trivial) hk
      rw [if_neg hut] at hw
      cases hw.1
      exact hne

/-- re-validation of a held result, for a typed dict; `hu` only supplies the `required` guard -/
theorem validate_dict_again {E : Env} {kf vf : Option FieldSpec} {req : Bool} {u : Val} {kvs es : List (Val × Val)}
    (hu : validate E (.mk (.dict kf vf) req none) u = .ok (.dict kvs)) (hne : (kf.isNone && vf.isNone) = false)
    (hv : mapEntries (fun x => validateOpt E kf x) (fun x => validateOpt E vf x) kvs = .ok es) :
    validate E (.mk (.dict kf vf) req none) (.dict kvs) = .ok (.dict (buildDict es)) := by
  have hnn : ¬ (kf.isNone && vf.isNone) = true := by simp [hne]
  refine validate_nc_of_kind (by simp)
    (validateKind_dict_eq_ok.2 ⟨kvs, rfl, ?_, by rw [if_neg hnn]; exact ⟨es, hv, rfl⟩⟩)
  rcases validate_inv_nc hu with ⟨_, _, h⟩ | ⟨_, hk⟩
  · cases h
  · obtain ⟨kvs0, hw, hre, _⟩ := validateKind_dict_result (P := fun _ => True) (Q := fun _ => True)
      (fun _ _ _ => trivial) (fun _ _ _ => trivial) hk
    cases hw
    exact hre

theorem validate_list_nil (E : Env) (item : Option FieldSpec) :
    validate E (.mk (.list item) false none) (.list []) = .ok (.list []) := by
  rcases item with _ | ⟨k, r, c⟩
  · rfl
  · cases k <;> rfl

theorem validate_dict_nil (E : Env) (kf vf : Option FieldSpec) :
    validate E (.mk (.dict kf vf) false none) (.dict []) = .ok (.dict []) := by
  cases kf <;> cases vf <;> rfl

theorem boolRule_shape {v0 v : Val} (h : boolRule v0 = .ok v) : ∃ b, v = .bool b := by
  cases v0 <;> simp only [boolRule] at h <;> (repeat' split at h) <;> cases h <;> exact ⟨_, rfl⟩

theorem bytesRule_shape {E : Env} {v0 v : Val} (h : bytesRule E v0 = .ok v) : ∃ b, v = .bytes b := by
  unfold bytesRule at h
  split at h <;> cases h <;> exact ⟨_, rfl⟩

theorem challengeRule_shape {E : Env} {alg : String} {v0 v : Val} (h : challengeRule E alg v0 = .ok v) :
    ∃ s d a, v = .digest s d a := by
  unfold challengeRule at h
  split at h <;> cases h <;> exact ⟨_, _, _, rfl⟩

/-- the declarations directly below a kind -/
def Kind.subs : Kind → List FieldSpec
  | .list item => item.toList
  | .dict kf vf => kf.toList ++ vf.toList
  | _ => []

mutual
  /-- **Induction on declarations.**  `FieldSpec` is mutual with `Kind` and nested through `Option`, hence the block: the
      other two members are auxiliaries, for the optional declarations and for the kinds. -/
  theorem FieldSpec.induct {P : FieldSpec → Prop} (step : ∀ k r c, (∀ f ∈ k.subs, P f) → P (.mk k r c)) : ∀ f, P f
    | .mk k r c => step k r c (Kind.induct_subs step k)
  theorem Option.induct_spec {P : FieldSpec → Prop} (step : ∀ k r c, (∀ f ∈ k.subs, P f) → P (.mk k r c)) :
      ∀ (o : Option FieldSpec), ∀ f ∈ o.toList, P f
    | none, _, h => by cases h
    | some g, f, h => by
      cases List.mem_singleton.1 h
      exact FieldSpec.induct step g
  theorem Kind.induct_subs {P : FieldSpec → Prop} (step : ∀ k r c, (∀ f ∈ k.subs, P f) → P (.mk k r c)) :
      ∀ (k : Kind), ∀ f ∈ k.subs, P f
    | .list item, f, h => Option.induct_spec step item f h
    | .dict kf vf, f, h => (List.mem_append.1 h).elim (Option.induct_spec step kf f) (Option.induct_spec step vf f)
    | .any, _, h | .string _, _, h | .int _ _, _, h | .float _ _, _, h | .bool, _, h | .bytes _, _, h | .ipv4addr _, _, h
    | .ipv4net _ _ _, _, h | .hostname _ _, _, h | .filename _ _ _, _, h | .url _, _, h | .challenge _, _, h
    | .secure _, _, h => by cases h
end

/-- `FieldSpec.induct` with the hypothesis stated for the optional item / key / value declarations, as the kinds hold them:
    `Q` is `P` carried over to a declaration that may be absent.  For `.list item` the hypothesis gives `Q item` as
    `ih item (List.Subset.refl _)`. -/
theorem FieldSpec.inductOpt {P : FieldSpec → Prop} {Q : Option FieldSpec → Prop} (hn : Q none) (hs : ∀ f, P f → Q (some f))
    (step : ∀ k r c, (∀ o : Option FieldSpec, o.toList ⊆ k.subs → Q o) → P (.mk k r c)) : ∀ f, P f :=
  FieldSpec.induct fun k r c ih => step k r c fun o ho => by
    cases o with
    | none => exact hn
    | some f => exact hs f (ih f (ho (List.mem_singleton.2 rfl)))

end Cinco.Field
