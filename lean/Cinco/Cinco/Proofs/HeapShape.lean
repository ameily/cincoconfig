import Cinco.Proofs.HeapAlloc
/-
  What an operation does to the heap (C13): it allocates for `cfg i` and then writes at most one cell of `cfg i`, whose new
  content holds, in any order, values it held before and at most once the value just allocated (`Shape`).  The heap graph
  (`Kid`, `Reach`, `Dep`): ownership runs along edges; under `NoShare` a cell has one parent and what reaches it is a chain;
  under `Bounded` there is no cycle.  Navigation (`PMove`, `IsCfg`) is used through the inversions of a successful `navCfg` /
  `navVal` and through `Reach`; the file arrives at `execOp_shape`: every successful operation is a `Shape` whose writable
  cells are the targets of the configuration cell it acts on.
-/
namespace Cinco.Heap

/- derived once for the proofs of this file: see the note in `Proofs/HeapAlloc.lean` -/
attribute [local simp] navVal navCfg

theorem OwnedBy.nonref {h : Heap} {o : Owner} {v : HVal} (hv : v.isRef = false) : OwnedBy h o v := by
  cases v <;> simp [OwnedBy, HVal.isRef] at *

theorem OwnedBy.lt {h : Heap} {o : Owner} {v : HVal} (ov : OwnedBy h o v) : ∀ b, v = .ref b → b < h.next := by
  intro b hb; subst hb
  obtain ⟨c, e⟩ := ov
  exact Heap.get?_lt e

theorem Fresh.ownedBy {o o' : Owner} {h h' : Heap} (f : Fresh o h h') {v : HVal} (p : OwnedBy h o' v) : OwnedBy h' o' v := by
  cases v with
  | ref b => obtain ⟨c, e⟩ := p; exact ⟨c, f.get?_of e⟩
  | atom _ | null => trivial

theorem Fresh.ownedBy_new {o : Owner} {h h' : Heap} (f : Fresh o h h') {v : HVal} (p : NewBelow h.next h'.next v) : OwnedBy h' o v := by
  cases v with
  | ref b =>
    obtain ⟨⟨o', c⟩, e⟩ := Heap.get?_of_lt p.2
    have := f.owner_new p.1 e
    subst this
    exact ⟨c, e⟩
  | atom _ | null => trivial

theorem Fresh.closed {o : Owner} {h h' : Heap} (f : Fresh o h h') (hc : Closed h) : Closed h' := by
  intro a o' c e v hv
  rcases f.cell_cases e with ⟨_, e'⟩ | ⟨hle, _⟩
  · exact f.ownedBy (hc a o' c e' v hv)
  · cases f.owner_new hle e
    exact f.ownedBy_new ((f.ord a _ c hle e v hv).mono (Nat.le_refl _) (Nat.le_of_lt (Heap.get?_lt e)))

theorem Fresh.noShare {o : Owner} {h h' : Heap} (f : Fresh o h h') (hc : Closed h) (ns : NoShare h) : NoShare h' := by
  refine ⟨?_, ?_⟩
  · intro a o' c e
    rcases f.cell_cases e with ⟨_, e'⟩ | ⟨l, _⟩
    · exact ns.nodup a o' c e'
    · exact f.nodup a o' c l e
  · intro a1 o1 c1 a2 o2 c2 b e1 e2 hb1 hb2
    rcases f.cell_cases e1 with ⟨_, e1'⟩ | ⟨l1, k1⟩ <;> rcases f.cell_cases e2 with ⟨_, e2'⟩ | ⟨l2, k2⟩
    · exact ns.uniq a1 o1 c1 a2 o2 c2 b e1' e2' hb1 hb2
    · have := (hc a1 o1 c1 e1' _ hb1).lt b rfl; have := (k2 b hb2).1; omega
    · have := (hc a2 o2 c2 e2' _ hb2).lt b rfl; have := (k1 b hb1).1; omega
    · exact f.uniq a1 o1 c1 a2 o2 c2 b l1 l2 e1 e2 hb1 hb2

theorem Fresh.ordered {o : Owner} {h h' : Heap} (f : Fresh o h h') (ho : SchemaOrdered h) : SchemaOrdered h' := by
  intro a c e b hb
  rcases f.cell_cases e with ⟨_, e'⟩ | ⟨_, k⟩
  · exact ho a c e' b hb
  · exact (k b hb).2

theorem ownedBy_write {h : Heap} {a : Nat} {c' : Cell} {o : Owner} {v : HVal} (p : OwnedBy h o v) : OwnedBy (h.write a c') o v := by
  cases v with
  | ref b =>
    obtain ⟨c, e⟩ := p
    by_cases hab : a = b
    · exact ⟨c', hab ▸ Heap.get?_write_self c' (hab ▸ e)⟩
    · exact ⟨c, (Heap.get?_write_ne c' hab).trans e⟩
  | atom _ | null => trivial

theorem closed_write {h : Heap} {a : Nat} {o : Owner} {c c' : Cell} (hc : Closed h) (e : h.get? a = some (o, c))
    (hk : ∀ w ∈ c'.kids, OwnedBy h o w) : Closed (h.write a c') := by
  intro b o' cb eb v hv
  rcases Heap.get?_write_cases e eb with ⟨rfl, rfl, rfl⟩ | ⟨_, eb⟩
  · exact ownedBy_write (hk v hv)
  · exact ownedBy_write (hc b o' cb eb v hv)

/-- `Shape T i h h'`: `h'` is `h` after an allocation phase for owner `cfg i` that yields the value `v`, followed by at most one
    write to a cell `a` owned by `cfg i` (with `T a`), whose new content keeps old items or adds `v`, never duplicating one.
    `T` says which own cells may be written: `Shape.get?_of` keeps every cell outside `T`; instances are `Target`, `PathTarget`
    and `(· = c)`. -/
inductive Shape (T : Nat → Prop) (i : Nat) (h h' : Heap) : Prop where
  | allocOnly : Fresh (.cfg i) h h' → Shape T i h h'
  | write (h1 : Heap) (a : Nat) (c c' : Cell) (v : HVal) :
      Fresh (.cfg i) h h1 → h.get? a = some (.cfg i, c) → KidsOK h h1 [v] →
      (∀ w ∈ c'.kids, w ∈ c.kids ∨ w = v) →
      ((refsOf c.kids).Nodup → (∀ b, v = .ref b → b ∉ refsOf c.kids) → (refsOf c'.kids).Nodup) →
      T a → h' = h1.write a c' → Shape T i h h'

theorem Shape.refl (T : Nat → Prop) (i : Nat) (h : Heap) : Shape T i h h := .allocOnly (Fresh.refl _ h)

theorem Shape.weaken {T T' : Nat → Prop} {i : Nat} {h h' : Heap} (sh : Shape T i h h') (w : ∀ a, T a → T' a) : Shape T' i h h' := by
  cases sh with
  | allocOnly f => exact .allocOnly f
  | write h1 a c c' v f e kv hk hn ht eq => exact .write h1 a c c' v f e kv hk hn (w a ht) eq

section
variable {T : Nat → Prop}

theorem Shape.closed {i : Nat} {h h' : Heap} (sh : Shape T i h h') (hc : Closed h) : Closed h' := by
  cases sh with
  | allocOnly f => exact f.closed hc
  | write h1 a c c' v f e kv hk _ _ eq =>
    subst eq
    refine closed_write (f.closed hc) (f.get?_of e) ?_
    intro w hw
    rcases hk w hw with hw | hw
    · exact f.ownedBy (hc a _ c e w hw)
    · subst hw; exact f.ownedBy_new kv.val

theorem Shape.noShare {i : Nat} {h h' : Heap} (sh : Shape T i h h') (hc : Closed h) (ns : NoShare h) : NoShare h' := by
  cases sh with
  | allocOnly f => exact f.noShare hc ns
  | write h1 a c c' v f e kv hk hn _ eq =>
    subst eq
    have ns1 := f.noShare hc ns
    have e1 := f.get?_of e
    have nbv := kv.val
    -- no cell of `h1` refers to `v`: the old cells refer to old cells and `v` is new; for the new cells this is `kv.unref`
    have vunref : ∀ b, v = .ref b → ∀ x o cx, h1.get? x = some (o, cx) → HVal.ref b ∉ cx.kids := by
      intro b hb x o cx ex hm
      rcases f.cell_cases ex with ⟨_, ex'⟩ | ⟨hx, _⟩
      · have := (hc x o cx ex' _ hm).lt b rfl
        subst hb; have := nbv.1; omega
      · exact kv.unref v List.mem_cons_self b hb x o cx hx ex hm
    have other : ∀ x o cx b, a ≠ x → h1.get? x = some (o, cx) → HVal.ref b ∈ c'.kids → HVal.ref b ∉ cx.kids := by
      intro x o cx b hax ex hb hm
      rcases hk _ hb with hb | hb
      · exact hax (ns1.uniq a _ c x o cx b e1 ex hb hm)
      · exact vunref b hb.symm x o cx ex hm
    refine ⟨?_, ?_⟩
    · intro x o cx ex
      rcases Heap.get?_write_cases e1 ex with ⟨rfl, rfl, rfl⟩ | ⟨_, ex⟩
      · exact hn (ns1.nodup x _ c e1) (fun b hb hm => vunref b hb x _ c e1 (mem_refsOf.mp hm))
      · exact ns1.nodup x o cx ex
    · intro x1 o1 c1 x2 o2 c2 b ex1 ex2 hb1 hb2
      rcases Heap.get?_write_cases e1 ex1 with ⟨rfl, rfl, rfl⟩ | ⟨n1, ex1'⟩ <;>
        rcases Heap.get?_write_cases e1 ex2 with ⟨rfl, rfl, rfl⟩ | ⟨n2, ex2'⟩
      · rfl
      · exact absurd hb2 (other x2 o2 c2 b n2 ex2' hb1)
      · exact absurd hb1 (other x1 o1 c1 b n1 ex1' hb2)
      · exact ns1.uniq x1 o1 c1 x2 o2 c2 b ex1' ex2' hb1 hb2

theorem Shape.get?_of {i : Nat} {h h' : Heap} (sh : Shape T i h h') {x : Nat} {o : Owner} {c : Cell} (e : h.get? x = some (o, c))
    (hx : o = .cfg i → ¬ T x) : h'.get? x = some (o, c) := by
  cases sh with
  | allocOnly f => exact f.get?_of e
  | write h1 a c0 c' v f e0 _ _ _ ht eq =>
    subst eq
    by_cases hab : a = x
    · subst hab
      rw [e0, Option.some.injEq, Prod.mk.injEq] at e
      exact absurd ht (hx e.1.symm)
    · exact (Heap.get?_write_ne c' hab).trans (f.get?_of e)

theorem Shape.frame {i : Nat} {h h' : Heap} (sh : Shape T i h h') {a : Nat} {o : Owner} {c : Cell}
    (e : h.get? a = some (o, c)) (ho : o ≠ .cfg i) : h'.get? a = some (o, c) :=
  sh.get?_of e (fun h => absurd h ho)

theorem Shape.owner {i : Nat} {h h' : Heap} (sh : Shape T i h h') {a : Nat} {o : Owner} {c : Cell}
    (e : h.get? a = some (o, c)) : ∃ c', h'.get? a = some (o, c') := by
  cases sh with
  | allocOnly f => exact ⟨c, f.get?_of e⟩
  | write h1 a' c0 c' v f e0 _ _ _ _ eq =>
    subst eq
    exact ownedBy_write (v := .ref a) ⟨c, f.get?_of e⟩

theorem Shape.next_le {i : Nat} {h h' : Heap} (sh : Shape T i h h') : h.next ≤ h'.next := by
  cases sh with
  | allocOnly f => exact f.next_le
  | write h1 a' c0 c' v f e0 _ _ _ _ eq => subst eq; simpa using f.next_le

theorem Shape.owner_new {i : Nat} {h h' : Heap} (sh : Shape T i h h') {a : Nat} {o : Owner} {c : Cell}
    (ha : h.next ≤ a) (e : h'.get? a = some (o, c)) : o = .cfg i := by
  cases sh with
  | allocOnly f => exact f.owner_new ha e
  | write h1 a' c0 c' v f e0 _ _ _ _ eq =>
    subst eq
    rw [Heap.get?_write_ne c' (by have := Heap.get?_lt e0; omega)] at e
    exact f.owner_new ha e

theorem Shape.ext {i : Nat} {h h' : Heap} (sh : Shape T i h h') : Ext i h h' where
  next_le := sh.next_le
  owner := by
    intro a ha
    obtain ⟨⟨o, c⟩, e⟩ := Heap.get?_of_lt ha
    obtain ⟨c', e'⟩ := sh.owner e
    simp [Heap.owner?, e, e']
  frame := fun a o c e ho => sh.frame e ho
  fresh := fun a o c ha e => sh.owner_new ha e

theorem Shape.ownedBy {i : Nat} {h h' : Heap} (sh : Shape T i h h') {o : Owner} {v : HVal} (p : OwnedBy h o v) : OwnedBy h' o v := by
  cases v with
  | ref b => obtain ⟨c, e⟩ := p; exact sh.owner e
  | atom _ | null => trivial

theorem Shape.ordered {i : Nat} {h h' : Heap} (sh : Shape T i h h') (ho : SchemaOrdered h) : SchemaOrdered h' := by
  intro a c e
  by_cases ha : a < h.next
  · obtain ⟨⟨o, c0⟩, e0⟩ := Heap.get?_of_lt ha
    obtain ⟨c1, e1⟩ := sh.owner e0
    rw [e1, Option.some.injEq, Prod.mk.injEq] at e
    obtain ⟨rfl, rfl⟩ := e
    rw [sh.frame e0 (by simp), Option.some.injEq, Prod.mk.injEq] at e1
    exact e1.2 ▸ ho a c0 e0
  · cases sh.owner_new (Nat.le_of_not_lt ha) e

end

/-- one edge of the heap graph -/
def Kid (h : Heap) (x y : Nat) : Prop := ∃ o c, h.get? x = some (o, c) ∧ HVal.ref y ∈ c.kids

theorem reach_owned {h : Heap} (hc : Closed h) {o : Owner} {v : HVal} {x : Nat} (r : Reach h v x) :
    OwnedBy h o v → ∃ c, h.get? x = some (o, c) := by
  induction r with
  | here a => intro ov; exact ov
  | step a o' c w x e hw _ ih =>
    intro ov
    obtain ⟨c0, e0⟩ := ov
    cases e.symm.trans e0
    exact ih (hc a _ c e w hw)

theorem Kid.reach {h : Heap} {x y : Nat} (k : Kid h x y) : Reach h (.ref x) y := by
  obtain ⟨o, c, e, hm⟩ := k
  exact .step x o c _ y e hm (.here y)

theorem reach_trans {h : Heap} {v : HVal} {y z : Nat} (r1 : Reach h v y) (r2 : Reach h (.ref y) z) : Reach h v z := by
  induction r1 with
  | here a => exact r2
  | step a o c w x e hw _ ih => exact .step a o c w z e hw (ih r2)

theorem Kid.reach_of {h : Heap} {x y z : Nat} (k : Kid h x y) (r : Reach h (.ref y) z) : Reach h (.ref x) z :=
  reach_trans k.reach r

theorem reach_last {h : Heap} {v : HVal} {y : Nat} (r : Reach h v y) : v = .ref y ∨ ∃ p, Reach h v p ∧ Kid h p y := by
  induction r with
  | here a => exact Or.inl rfl
  | step a o c w x e hw r ih =>
    right
    rcases ih with ih | ⟨p, rp, kp⟩
    · subst ih; exact ⟨a, .here a, o, c, e, hw⟩
    · exact ⟨p, .step a o c w p e hw rp, kp⟩

theorem NoShare.parent {h : Heap} (ns : NoShare h) {p p' y : Nat} (k : Kid h p y) (k' : Kid h p' y) : p = p' := by
  obtain ⟨o, c, e, hm⟩ := k
  obtain ⟨o', c', e', hm'⟩ := k'
  exact ns.uniq p o c p' o' c' y e e' hm hm'

theorem reach_kid {h : Heap} (ns : NoShare h) {B X x : Nat} (k : Kid h X x) (r : Reach h (.ref B) x) :
    B = x ∨ Reach h (.ref B) X := by
  rcases reach_last r with hl | ⟨p, rp, kp⟩
  · exact Or.inl (HVal.ref.inj hl)
  · exact Or.inr (ns.parent k kp ▸ rp)

theorem Dep.mono {h : Heap} {v : HVal} {d : Nat} (hd : Dep h v d) : ∀ {d' : Nat}, d ≤ d' → Dep h v d' := by
  induction hd with
  | null d => intro d' _; exact .null d'
  | atom s d => intro d' _; exact .atom s d'
  | ref a o c d e _ ih =>
    intro d' hle
    cases d' with
    | zero => omega
    | succ d'' => exact .ref a o c d'' e (fun w hw => ih w hw (by omega))

theorem dep_reach {h : Heap} {v : HVal} {y : Nat} (r : Reach h v y) : ∀ {d : Nat}, Dep h v d → Dep h (.ref y) d := by
  induction r with
  | here a => intro d hd; exact hd
  | step a o c w x e hw _ ih =>
    intro d hd
    cases hd with
    | ref _ o' c' d' e' hk =>
      cases e.symm.trans e'
      exact (ih (hk w hw)).mono (Nat.le_succ _)

theorem dep_kid {h : Heap} {x y d : Nat} (hd : Dep h (.ref x) (d + 1)) (k : Kid h x y) : Dep h (.ref y) d := by
  obtain ⟨o, c, e, hm⟩ := k
  cases hd with
  | ref _ o' c' d' e' hk =>
    cases e.symm.trans e'
    exact hk _ hm

theorem no_cycle_dep {h : Heap} (d : Nat) {x y : Nat} (hd : Dep h (.ref x) d) (k : Kid h x y) (r : Reach h (.ref y) x) :
    False := by
  induction d generalizing x y with
  | zero => cases hd
  | succ d ih => exact ih (dep_reach r (dep_kid hd k)) k r

theorem no_cycle {h : Heap} (hb : Bounded h) {x y : Nat} (k : Kid h x y) (r : Reach h (.ref y) x) : False := by
  obtain ⟨o, c, e, _⟩ := k
  exact no_cycle_dep h.next (hb x o c e) ⟨o, c, e, ‹_›⟩ r

/-- under `NoShare`, of two cells that reach `a`, one reaches the other (the first is given as a value `v`) -/
theorem reach_chain {h : Heap} (ns : NoShare h) {v : HVal} {a : Nat} (r : Reach h v a) :
    ∀ {y : Nat}, Reach h (.ref y) a → Reach h v y ∨ ∃ x, v = .ref x ∧ Reach h (.ref y) x := by
  induction r with
  | here a => intro y hy; exact Or.inr ⟨a, rfl, hy⟩
  | step a0 o c w a e hw _ ih =>
    intro y hy
    rcases ih hy with ih | ⟨x, hx, ryx⟩
    · exact Or.inl (.step a0 o c w y e hw ih)
    · subst hx
      rcases reach_kid ns ⟨o, c, e, hw⟩ ryx with rfl | rp
      · exact Or.inl (.step a0 o c _ y e hw (.here y))
      · exact Or.inr ⟨a0, rfl, rp⟩

theorem lookup_getElem {α : Type} {k : String} {v : α} {l : List (String × α)} (e : lookup k l = some v) :
    ∃ i : Nat, l[i]? = some (k, v) := by
  induction l with
  | nil => exact nomatch e
  | cons p r ih =>
    simp only [lookup] at e
    split at e
    · rename_i hk
      cases e
      exact ⟨0, by rw [← hk]; rfl⟩
    · obtain ⟨i, hi⟩ := ih e
      exact ⟨i + 1, hi⟩

theorem lookup_mem {α : Type} {k : String} {v : α} {l : List (String × α)} (e : lookup k l = some v) : v ∈ l.map (·.2) := by
  obtain ⟨i, hi⟩ := lookup_getElem e
  exact List.mem_map.mpr ⟨_, List.mem_of_getElem? hi, rfl⟩

theorem put_kids {α : Type} (k : String) (v : α) (l : List (String × α)) :
    ∃ m, ((put k v l).map (·.2)).Sublist m ∧ m.Perm (v :: l.map (·.2)) := by
  induction l with
  | nil => exact ⟨_, .refl _, .refl _⟩
  | cons p r ih =>
    simp only [put]
    split
    · exact ⟨_, .cons_cons v (List.sublist_cons_self _ _), .refl _⟩
    · obtain ⟨m, sub, perm⟩ := ih
      exact ⟨p.2 :: m, .cons_cons _ sub, (perm.cons _).trans (.swap _ _ _)⟩

/-- what a single path step does, as a relation -/
inductive PMove (h : Heap) (c : Nat) : PStep → Nat → Prop where
  | fld (name : String) (k : Nat) (sl : Slots) (dy : List String) (b : Nat) :
      h.cell? c = some (.cfg k sl dy) → lookup name sl = some (.ref b) → PMove h c (.fld name) b
  | item (name : String) (n : Nat) (k : Nat) (sl : Slots) (dy : List String) (l : Nat) (items : List HVal) (b : Nat) :
      h.cell? c = some (.cfg k sl dy) → lookup name sl = some (.ref l) → h.cell? l = some (.list items) →
      items[n]? = some (.ref b) → PMove h c (.item name n) b

/-- `c` is the address of a configuration cell; `Cell.isCfg` is the model's Boolean test on a cell (`IsCfg.isCfg` relates the two) -/
def IsCfg (h : Heap) (c : Nat) : Prop := ∃ k sl dy, h.cell? c = some (.cfg k sl dy)

theorem IsCfg.isCfg {h : Heap} {a : Nat} {c : Cell} (ic : IsCfg h a) (e : h.cell? a = some c) : c.isCfg = true := by
  obtain ⟨k, sl, dy, hc⟩ := ic
  cases hc.symm.trans e
  rfl

theorem IsCfg.nav_nil {h : Heap} {c : Nat} (ic : IsCfg h c) : navCfg h c [] = .ok c := by
  obtain ⟨k, sl, dy, hc⟩ := ic
  simp [hc]

/-- `navCfg_nil`, `navCfg_cons`, `navVal_nil`, `navVal_cons` invert a navigation that succeeded; they are not equations of the
    two functions -/
theorem navCfg_nil {h : Heap} {c X : Nat} (e : navCfg h c [] = .ok X) : X = c ∧ IsCfg h c := by
  simp only [navCfg] at e
  split at e
  · rename_i k sl dy hc
    simp at e; exact ⟨e.symm, k, sl, dy, hc⟩
  · simp at e

theorem navCfg_cons {h : Heap} {c X : Nat} {s : PStep} {rest : List PStep} (e : navCfg h c (s :: rest) = .ok X) :
    ∃ b, PMove h c s b ∧ navCfg h b rest = .ok X := by
  cases s with
  | fld name =>
    simp only [navCfg] at e
    split at e
    · rename_i k sl dy hc
      split at e
      · rename_i b hl; exact ⟨b, .fld name k sl dy b hc hl, e⟩
      · cases e
      · cases e
    · cases e
  | item name n =>
    simp only [navCfg] at e
    split at e
    · rename_i k sl dy hc
      split at e
      · rename_i l hl
        split at e
        · rename_i items hcl
          split at e
          · rename_i b hi; exact ⟨b, .item name n k sl dy l items b hc hl hcl hi, e⟩
          · cases e
          · cases e
        · cases e
      · cases e
      · cases e
    · cases e

theorem kid_of_cell {h : Heap} {x y : Nat} {c : Cell} (e : h.cell? x = some c) (hm : HVal.ref y ∈ c.kids) : Kid h x y := by
  obtain ⟨o, e'⟩ := Heap.cell?_some e
  exact ⟨o, c, e', hm⟩

theorem PMove.down {h : Heap} {c b : Nat} {s : PStep} (m : PMove h c s b) : IsCfg h c ∧ ∃ z, Kid h c z ∧ Reach h (.ref z) b := by
  cases m with
  | fld name k sl dy b hc hl =>
    exact ⟨⟨k, sl, dy, hc⟩, b, kid_of_cell hc (lookup_mem hl), .here b⟩
  | item name n k sl dy l items b hc hl hcl hi =>
    refine ⟨⟨k, sl, dy, hc⟩, l, kid_of_cell hc (lookup_mem hl), ?_⟩
    exact (kid_of_cell hcl (List.mem_of_getElem? hi)).reach

theorem navCfg_reach {h : Heap} (p : List PStep) {c X : Nat} (e : navCfg h c p = .ok X) :
    IsCfg h c ∧ IsCfg h X ∧ Reach h (.ref c) X := by
  induction p generalizing c with
  | nil =>
    obtain ⟨rfl, ic⟩ := navCfg_nil e
    exact ⟨ic, ic, .here _⟩
  | cons s rest ih =>
    obtain ⟨b, m, e'⟩ := navCfg_cons e
    obtain ⟨_, iX, r⟩ := ih e'
    obtain ⟨ic, z, k, rz⟩ := m.down
    exact ⟨ic, iX, k.reach_of (reach_trans rz r)⟩

theorem navCfg_owned {h : Heap} {o : Owner} (hc : Closed h) {path : List PStep} {c t : Nat} {cc : Cell}
    (e : h.get? c = some (o, cc)) (hn : navCfg h c path = .ok t) : ∃ k sl dy, h.get? t = some (o, .cfg k sl dy) := by
  obtain ⟨_, ⟨k, sl, dy, ht⟩, r⟩ := navCfg_reach path hn
  obtain ⟨c', e'⟩ := reach_owned hc r (o := o) ⟨cc, e⟩
  rw [Heap.cell?_eq e', Option.some.injEq] at ht
  exact ⟨k, sl, dy, ht ▸ e'⟩

theorem navVal_nil {h : Heap} {v : HVal} {a : Nat} (e : navVal h v [] = .ok a) : v = .ref a := by
  cases v with
  | ref x => simp only [navVal, Except.ok.injEq] at e; rw [e]
  | atom _ | null => simp at e

theorem navVal_cons {h : Heap} {v : HVal} {st : VStep} {rest : List VStep} {a : Nat} (e : navVal h v (st :: rest) = .ok a) :
    ∃ x c w, v = .ref x ∧ h.cell? x = some c ∧ c.isCfg = false ∧ w ∈ c.kids ∧ navVal h w rest = .ok a := by
  cases v with
  | ref x =>
    cases st with
    | idx n =>
      simp only [navVal] at e
      split at e
      · rename_i items hc
        split at e
        · rename_i w hi
          exact ⟨x, _, w, rfl, hc, rfl, List.mem_of_getElem? hi, e⟩
        · cases e
      · cases e
    | key k =>
      simp only [navVal] at e
      split at e
      · rename_i kvs hc
        split at e
        · rename_i w hi
          exact ⟨x, _, w, rfl, hc, rfl, lookup_mem hi, e⟩
        · cases e
      · cases e
  | atom _ | null => simp at e

theorem navVal_reach {h : Heap} (steps : List VStep) {v : HVal} {a : Nat} (e : navVal h v steps = .ok a) : Reach h v a := by
  induction steps generalizing v with
  | nil => rw [navVal_nil e]; exact .here a
  | cons st rest ih =>
    obtain ⟨x, c, w, rfl, hc, _, hw, e'⟩ := navVal_cons e
    obtain ⟨o, hg⟩ := Heap.cell?_some hc
    exact .step x o c w a hg hw (ih e')

/-- `hs`: the new content is a sub-multiset of the old content plus the value the allocation yields -/
theorem shape_of_alloc_write {T : Nat → Prop} {i : Nat} {h : Heap} {f : Heap → HVal × Heap} (hf : Allocates (.cfg i) f)
    {a : Nat} {c c' : Cell} (e : h.get? a = some (.cfg i, c)) (hs : ∃ m, c'.kids.Sublist m ∧ m.Perm ((f h).1 :: c.kids))
    (ht : T a) : Shape T i h ((f h).2.write a c') := by
  obtain ⟨m, sub, perm⟩ := hs
  refine .write (f h).2 a c c' (f h).1 (hf h).1 e (hf h).2 ?_ ?_ ht rfl
  · intro w hw
    exact (List.mem_cons.mp (perm.mem_iff.mp (sub.subset hw))).symm
  · intro hn hv
    have nd := refsOf_cons_nodup.mpr ⟨hv, hn⟩
    rw [refsOf_eq_filterMap] at nd ⊢
    exact ((perm.filterMap _).nodup_iff.mpr nd).sublist (sub.filterMap _)

theorem shape_of_write {T : Nat → Prop} {i : Nat} {h : Heap} {a : Nat} {c c' : Cell} (e : h.get? a = some (.cfg i, c))
    (hs : c'.kids.Sublist c.kids) (ht : T a) : Shape T i h (h.write a c') :=
  shape_of_alloc_write (f := fun h => (.null, h)) (allocates_pure _ .null rfl) e ⟨_, hs.cons _, .refl _⟩ ht

section
variable {T : Nat → Prop} {i : Nat} {h : Heap} {f : Heap → HVal × Heap}

theorem shape_put (hf : Allocates (.cfg i) f) {a k : Nat} {sl : Slots} {dy dy' : List String}
    (e : h.get? a = some (.cfg i, .cfg k sl dy)) (key : String) (ht : T a) :
    Shape T i h ((f h).2.write a (.cfg k (put key (f h).1 sl) dy')) :=
  shape_of_alloc_write hf e (put_kids key _ sl) ht

theorem shape_append (hf : Allocates (.cfg i) f) {a : Nat} {items : List HVal}
    (e : h.get? a = some (.cfg i, .list items)) (ht : T a) :
    Shape T i h ((f h).2.write a (.list (items ++ [(f h).1]))) :=
  shape_of_alloc_write hf e ⟨_, .refl _, List.perm_append_singleton _ _⟩ ht
end

theorem applyHow_shape {T : Nat → Prop} {i : Nat} {h h' : Heap} {a : Nat} {c : Cell} (e : h.get? a = some (.cfg i, c)) (how : How)
    (ht : c.isCfg = false → T a) (hr : applyHow (.cfg i) h a how = .ok h') : Shape T i h h' := by
  cases how with
  | append t =>
    simp only [applyHow, Heap.cell?_eq e] at hr
    split at hr
    · cases hr; rename_i items hc; cases hc
      exact shape_append (allocT_fresh _ t) e (ht rfl)
    · cases hr
  | setKey k t =>
    simp only [applyHow, Heap.cell?_eq e] at hr
    split at hr
    · cases hr; rename_i kvs hc; cases hc
      exact shape_of_alloc_write (allocT_fresh _ t) e (put_kids k _ kvs) (ht rfl)
    · cases hr
  | clear =>
    simp only [applyHow, Heap.cell?_eq e] at hr
    split at hr
    -- a list and a dict alike; the third branch raises
    all_goals cases hr
    all_goals rename_i hc; cases hc; exact shape_of_write e (List.nil_sublist _) (ht rfl)
  | pop =>
    simp only [applyHow, Heap.cell?_eq e] at hr
    split at hr
    · rename_i items hc; cases hc
      split at hr
      · cases hr
      · cases hr
        exact shape_of_write e (List.dropLast_sublist _) (ht rfl)
    · cases hr

theorem declOf_deep {S : Schemas} (hS : AllDeep S) {k : Nat} {key : String} {disc : Disc} {dv : HVal}
    (e : declOf S k key = some (.leaf disc dv)) : disc = .deep ∨ dv.isRef = false := by
  simp only [declOf] at e
  cases hk : S[k]? with
  | none => simp [hk] at e
  | some sd =>
    simp only [hk] at e
    have hm : FieldDecl.leaf disc dv ∈ sd.fields.map (·.2) := lookup_mem e
    obtain ⟨⟨name, d⟩, hm1, hm2⟩ := List.mem_map.mp hm
    simp at hm2; subst hm2
    exact hS.fields hk name disc dv hm1

theorem execOp_shape {S : Schemas} (hS : AllDeep S) {i : Nat} {h h' : Heap} (hc : Closed h) {c k : Nat} {sl : Slots}
    {dy : List String} (e : h.get? c = some (.cfg i, .cfg k sl dy)) (op : Op) (hr : execOp S (.cfg i) h c op = .ok h') :
    Shape (Target h c) i h h' := by
  cases op with
  | build => cases hr
  | set path key t =>
    simp only [execOp, Heap.cell?_eq e] at hr
    split at hr
    · cases hr; exact shape_put (allocT_fresh _ t) e key (Or.inl rfl)
    · cases hr
    · split at hr
      · cases hr; exact shape_put (allocT_fresh _ t) e key (Or.inl rfl)
      · cases hr
  | «mut» path key steps how =>
    simp only [execOp, Heap.cell?_eq e] at hr
    split at hr
    · rename_i v hl
      split at hr
      · rename_i a hn
        obtain ⟨ca, ea⟩ := reach_owned hc (navVal_reach steps hn) (hc c _ _ e v (lookup_mem hl))
        exact applyHow_shape ea how
          (fun hcfg => Or.inr ⟨k, sl, dy, key, v, steps, ca, Heap.cell?_eq e, hl, hn, Heap.cell?_eq ea, hcfg⟩) hr
      · cases hr
    · cases hr
  | reset path key =>
    simp only [execOp, Heap.cell?_eq e] at hr
    split at hr
    · rename_i disc dv hd
      cases hr
      exact shape_put (storeDefault_allocates _ disc dv (declOf_deep hS hd)) e key (Or.inl rfl)
    · cases hr
    · cases hr
  | addItem path key =>
    simp only [execOp, Heap.cell?_eq e] at hr
    split at hr
    · rename_i s2 hd
      split at hr
      · rename_i l hl
        obtain ⟨cl, el⟩ := hc c _ _ e _ (lookup_mem hl)
        rw [Heap.cell?_eq el] at hr
        split at hr
        · rename_i items hcl; cases hcl; cases hr
          exact shape_append (buildCfg_allocates hS _ (buildFuel S) s2) el
            (Or.inr ⟨k, sl, dy, key, .ref l, [], .list items, Heap.cell?_eq e, hl, by simp, Heap.cell?_eq el, rfl⟩)
        · cases hr
      · cases hr
    · cases hr
    · cases hr

end Cinco.Heap
