import Cinco.Proofs.Heap
import Cinco.Heap.Transfer
/-
  Lemmas for C13b (transfer of a typed container between configurations).  `transfer` is inverted once (`transfer_res`:
  the unchanged state with an error, or one `execTransfer` at the end of the path).  A guarded transfer is an action of the receiving
  root at the transfer's path (`transfer_acts`), so the invariant and frame lemmas that `Proofs/Heap.lean` proves for `Acts`
  apply to it as they do to `step`.  What is particular to a transfer is the read-back: the receiver does not move
  (`navCfg_write_end`) and the copy reads like the giver's value (`transfer_read_back`, from `copy_read_dep`).
  Also here: the executable `NoShare` check of the driver is complete (`noShareB_of_noShare`), so that a `false` answer
  certifies a violation (`not_noShare_of_check`).
-/
namespace Cinco.Heap

/-- `Outcome.ok` is also a value of the error type of `Except Outcome _`, so "no function of the model raises `ok`" has to be
    proved: here and in `heldValue_ne_ok`, `execTransfer_ne_ok` -/
theorem navCfg_ne_ok (h : Heap) (p : List PStep) (c : Nat) : navCfg h c p ≠ .error .ok := by
  fun_induction navCfg h c p <;> simp [*]

theorem heldValue_ok {h : Heap} {r : Nat} {key : String} {v : HVal} (e : heldValue h r key = .ok v) :
    ∃ k sl dy, h.cell? r = some (.cfg k sl dy) ∧ lookup key sl = some v := by
  simp only [heldValue] at e
  split at e
  · rename_i k sl dy hc
    split at e
    · rename_i w hl; cases e; exact ⟨k, sl, dy, hc, hl⟩
    · cases e
  · cases e

theorem heldValue_of {h : Heap} {r : Nat} {key : String} {v : HVal} {k : Nat} {sl : Slots} {dy : List String}
    (hc : h.cell? r = some (.cfg k sl dy)) (hl : lookup key sl = some v) : heldValue h r key = .ok v := by
  simp [heldValue, hc, hl]

theorem heldValue_ne_ok (h : Heap) (r : Nat) (key : String) : heldValue h r key ≠ .error .ok := by
  fun_cases heldValue h r key <;> simp [*]

theorem execTransfer_ok {S : Schemas} {o : Owner} {h h' : Heap} {c : Nat} {key : String} {mode : TransferMode} {v : HVal}
    (e : execTransfer S o h c key mode v = .ok h') :
    ∃ k sl dy disc dv, h.cell? c = some (.cfg k sl dy) ∧ declOf S k key = some (.leaf disc dv) ∧
      h' = (transferValue o mode v h).2.write c (.cfg k (put key (transferValue o mode v h).1 sl) dy) := by
  simp only [execTransfer] at e
  split at e
  · rename_i k sl dy hc
    split at e
    · rename_i disc dv hd; cases e; exact ⟨k, sl, dy, disc, dv, hc, hd, rfl⟩
    · cases e
    · cases e
  · cases e

theorem execTransfer_ne_ok (S : Schemas) (o : Owner) (h : Heap) (c : Nat) (key : String) (mode : TransferMode) (v : HVal) :
    execTransfer S o h c key mode v ≠ .error .ok := by
  fun_cases execTransfer S o h c key mode v <;> simp [*]

/-- what `transfer` returns: the unchanged state with an error outcome, or — exactly when the outcome is `ok` — the state
    after one `execTransfer` on the configuration cell at the end of the path -/
inductive TransferRes (S : Schemas) (s : State) (i j : Nat) (path : List PStep) (key : String) (mode : TransferMode)
    (r : State × Outcome) : Prop where
  | failed : r.1 = s → r.2 ≠ .ok → TransferRes S s i j path key mode r
  | done (ri rj c : Nat) (v : HVal) (h' : Heap) : s.roots[i]? = some ri → s.roots[j]? = some rj →
      heldValue s.heap rj key = .ok v → navCfg s.heap ri path = .ok c →
      execTransfer S (.cfg i) s.heap c key mode v = .ok h' → r = ({ s with heap := h' }, .ok) →
      TransferRes S s i j path key mode r

theorem transfer_res (S : Schemas) (s : State) (i j : Nat) (path : List PStep) (key : String) (mode : TransferMode) :
    TransferRes S s i j path key mode (transfer S s i j path key mode) := by
  simp only [transfer]
  cases hi : s.roots[i]? with
  | none => exact .failed rfl (by simp)
  | some ri =>
    cases hj : s.roots[j]? with
    | none => exact .failed rfl (by simp)
    | some rj =>
      simp only
      cases hv : heldValue s.heap rj key with
      | error e => exact .failed rfl (fun (he : e = .ok) => heldValue_ne_ok _ _ _ (he ▸ hv))
      | ok v =>
        cases hn : navCfg s.heap ri path with
        | error e => exact .failed rfl (fun (he : e = .ok) => navCfg_ne_ok _ _ _ (he ▸ hn))
        | ok c =>
          simp only
          cases hx : execTransfer S (.cfg i) s.heap c key mode v with
          | error e => exact .failed rfl (fun (he : e = .ok) => execTransfer_ne_ok _ _ _ _ _ _ _ (he ▸ hx))
          | ok h' => exact .done ri rj c v h' hi hj hv hn hx rfl

theorem transfer_roots (S : Schemas) (s : State) (i j : Nat) (path : List PStep) (key : String) (mode : TransferMode) :
    (transfer S s i j path key mode).1.roots = s.roots := by
  cases transfer_res S s i j path key mode with
  | failed e _ => rw [e]
  | done ri rj c v h' _ _ _ _ _ e => rw [e]

theorem transferValue_allocates (o : Owner) (v : HVal) : Allocates o (transferValue o .revalidate v) :=
  fun h => copyV_allocates o h.next v h

theorem execTransfer_shape {S : Schemas} {i : Nat} {h h' : Heap} {c : Nat} {cc : Cell} {key : String} {v : HVal}
    (e : h.get? c = some (.cfg i, cc)) (hr : execTransfer S (.cfg i) h c key .revalidate v = .ok h') :
    Shape (fun a => a = c) i h h' := by
  obtain ⟨k, sl, dy, disc, dv, hc, _, eq⟩ := execTransfer_ok hr
  rw [Heap.cell?_eq e, Option.some.injEq] at hc
  subst hc eq
  exact shape_put (transferValue_allocates _ v) e key rfl

theorem transfer_acts {S : Schemas} {s : State} (hs : Sep S s) (i j : Nat) (path : List PStep) (key : String) :
    Acts i path s (transfer S s i j path key .revalidate).1 := by
  refine ⟨?_, Or.inl (transfer_roots S s i j path key .revalidate)⟩
  cases transfer_res S s i j path key .revalidate with
  | failed e _ => rw [e]; exact Shape.refl _ i _
  | done ri rj c v h' hi hj hv hn hx e =>
    rw [e]
    obtain ⟨cr, er⟩ := hs.roots i ri hi
    obtain ⟨k, sl, dy, ec⟩ := navCfg_owned hs.closed er hn
    exact (execTransfer_shape ec hx).weaken (fun a ha => ⟨ri, c, hi, hn, Or.inl ha⟩)

theorem transfer_read_back {h : Heap} (hc : Closed h) (hb : Bounded h) {o o' : Owner} {v : HVal} (ov : OwnedBy h o' v)
    {c : Nat} (hcl : c < h.next) (cell : Cell) (n : Nat) :
    readV n ((transferValue o .revalidate v h).2.write c cell) (transferValue o .revalidate v h).1 = readV n h v := by
  have fr := transferValue_allocates o v h
  have step1 : readV n ((transferValue o .revalidate v h).2.write c cell) (transferValue o .revalidate v h).1 =
      readV n (transferValue o .revalidate v h).2 (transferValue o .revalidate v h).1 := by
    refine read_agree (fun a => h.next ≤ a ∧ a < (transferValue o .revalidate v h).2.next) ?_ n _ ?_
    · intro a ha
      obtain ⟨⟨o2, c2⟩, e⟩ := Heap.get?_of_lt ha.2
      refine ⟨o2, c2, e, (Heap.get?_write_ne cell (by omega)).trans e, fun b hb' => ?_⟩
      have nb := fr.1.ord a o2 c2 ha.1 e _ hb'
      exact ⟨nb.1, Nat.lt_trans nb.2 ha.2⟩
    · intro b hb'
      have nb := fr.2.val
      rw [hb'] at nb
      exact nb
  rw [step1]
  exact copy_read_dep o h.next v h (hb.dep_owned ov) hc n

theorem navCfg_write_end {o : Owner} {h h1 : Heap} (f : Fresh o h h1) (hb : Bounded h) {r c : Nat} {p : List PStep}
    (e : navCfg h r p = .ok c) (k : Nat) (sl : Slots) (dy : List String) :
    navCfg (h1.write c (.cfg k sl dy)) r p = .ok c := by
  obtain ⟨_, ic, _⟩ := navCfg_reach p e
  obtain ⟨k0, sl0, dy0, hc0⟩ := ic
  obtain ⟨o0, e0⟩ := Heap.cell?_some hc0
  refine navCfg_stable_above p e ?_ ?_
  · intro z cz hz hcz
    obtain ⟨y, ky, ry⟩ := hz
    have hne : c ≠ z := by
      intro hcz'; subst hcz'
      exact no_cycle hb ky ry
    obtain ⟨oz, ez⟩ := Heap.cell?_some hcz
    exact Heap.cell?_eq ((Heap.get?_write_ne _ hne).trans (f.get?_of ez))
  · exact ⟨k, sl, dy, Heap.cell?_eq (Heap.get?_write_self _ (f.get?_of e0))⟩

theorem lookup_put_self {α : Type} (k : String) (v : α) (l : List (String × α)) : lookup k (put k v l) = some v := by
  induction l with
  | nil => simp [put, lookup]
  | cons p r ih =>
    simp only [put]
    split
    · simp [lookup]
    · rename_i hne
      simp [lookup, hne, ih]

theorem State.valN_of {s : State} {i : Nat} {p : List PStep} {key : String} {r c k : Nat} {sl : Slots} {dy : List String}
    {v : HVal} (hr : s.roots[i]? = some r) (hn : navCfg s.heap r p = .ok c) (hc : s.heap.cell? c = some (.cfg k sl dy))
    (hl : lookup key sl = some v) (n : Nat) : s.valN n i p key = some (readV n s.heap v) := by
  simp only [State.valN, State.at_of hr hn, Option.bind_some, obsKeyN, hc, hl, Option.map_some]

theorem State.val_eq_valN (s : State) (i : Nat) (p : List PStep) (key : String) :
    s.val i p key = s.valN (s.heap.next + 1) i p key := rfl

theorem Heap.mem_refsAt {h : Heap} {a b : Nat} (hm : b ∈ h.refsAt a) : ∃ o c, h.get? a = some (o, c) ∧ HVal.ref b ∈ c.kids := by
  simp only [Heap.refsAt] at hm
  cases hc : h.cell? a with
  | none => simp [hc] at hm
  | some c =>
    simp only [hc] at hm
    obtain ⟨o, e⟩ := Heap.cell?_some hc
    exact ⟨o, c, e, mem_refsOf.mp hm⟩

theorem noShareB_of_noShare {h : Heap} (ns : NoShare h) : noShareB h = true := by
  simp only [noShareB, decide_eq_true_eq, Heap.childRefs, List.Nodup, List.pairwise_flatMap]
  refine ⟨?_, ?_⟩
  · intro a _
    simp only [Heap.refsAt]
    cases hc : h.cell? a with
    | none => exact List.Pairwise.nil
    | some c => exact nodup_of_cell ns hc
  · refine List.Pairwise.imp ?_ (List.nodup_range (n := h.next))
    intro a1 a2 hne x hx y hy hxy
    subst hxy
    obtain ⟨o1, c1, e1, m1⟩ := Heap.mem_refsAt hx
    obtain ⟨o2, c2, e2, m2⟩ := Heap.mem_refsAt hy
    exact hne (ns.uniq a1 o1 c1 a2 o2 c2 x e1 e2 m1 m2)

theorem not_noShare_of_check {h : Heap} (e : noShareB h = false) : ¬ NoShare h := by
  intro ns; rw [noShareB_of_noShare ns] at e; cases e

end Cinco.Heap
