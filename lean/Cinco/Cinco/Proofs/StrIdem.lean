import Cinco.Proofs.Str
/-
  Case mapping and stripping, as far as idempotence of the string transforms needs them: each is idempotent, the
  whitespace strip commutes with the case maps (no letter is blank, and its partner is a letter), and a character strip of
  case-mapped text is still case-mapped.  The case maps are read on code points (`lowerNat`, `upperNat`), where the ranges
  are decided by `omega`; `strip` and `stripChars` are one function, `trim`.
-/
namespace Cinco.Str

theorem toNat_ofNat_small (n : Nat) (h : n < 0xd800) : (Char.ofNat n).toNat = n := by
  have hv : n.isValidChar := Or.inl h
  simp [Char.ofNat, hv, Char.ofNatAux, Char.toNat]

def lowerNat (n : Nat) : Nat :=
  if 65 ≤ n ∧ n ≤ 90 then n + 32 else if 0xc0 ≤ n ∧ n ≤ 0xde ∧ n ≠ 0xd7 then n + 32 else n

def upperNat (n : Nat) : Nat :=
  if 97 ≤ n ∧ n ≤ 122 then n - 32 else if 0xe0 ≤ n ∧ n ≤ 0xfe ∧ n ≠ 0xf7 then n - 32 else n

theorem toNat_lowerChar (c : Char) : (lowerChar c).toNat = lowerNat c.toNat := by
  unfold lowerChar lowerNat isLatin1Upper
  simp only [Bool.and_eq_true, decide_eq_true_eq, bne_iff_ne, ne_eq, and_assoc]
  split
  · rw [toNat_ofNat_small _ (by omega)]
  · split
    · rw [toNat_ofNat_small _ (by omega)]
    · rfl

theorem toNat_upperChar (c : Char) : (upperChar c).toNat = upperNat c.toNat := by
  unfold upperChar upperNat isLatin1Lower
  simp only [Bool.and_eq_true, decide_eq_true_eq, bne_iff_ne, ne_eq, and_assoc]
  split
  · rw [toNat_ofNat_small _ (by omega)]
  · split
    · rw [toNat_ofNat_small _ (by omega)]
    · rfl

theorem lowerNat_eq_self {n : Nat} (h : n < 65 ∨ 90 < n ∧ n < 0xc0 ∨ 0xde < n ∨ n = 0xd7) : lowerNat n = n := by
  rw [lowerNat, if_neg (by omega), if_neg (by omega)]

theorem upperNat_eq_self {n : Nat} (h : n < 97 ∨ 122 < n ∧ n < 0xe0 ∨ 0xfe < n ∨ n = 0xf7) : upperNat n = n := by
  rw [upperNat, if_neg (by omega), if_neg (by omega)]

/-- the lower-case partner of a letter is no upper-case letter -/
theorem lowerNat_idem (n : Nat) : lowerNat (lowerNat n) = lowerNat n := by
  apply lowerNat_eq_self
  unfold lowerNat
  split
  · omega
  · split <;> omega

theorem upperNat_idem (n : Nat) : upperNat (upperNat n) = upperNat n := by
  apply upperNat_eq_self
  unfold upperNat
  split
  · omega
  · split <;> omega

theorem lowerChar_of_lt {c : Char} (h : c.toNat < 65) : lowerChar c = c :=
  Char.toNat_inj.1 ((toNat_lowerChar c).trans (lowerNat_eq_self (Or.inl h)))

theorem upperChar_of_lt {c : Char} (h : c.toNat < 97) : upperChar c = c :=
  Char.toNat_inj.1 ((toNat_upperChar c).trans (upperNat_eq_self (Or.inl h)))

theorem lowerChar_idem (c : Char) : lowerChar (lowerChar c) = lowerChar c := by
  apply Char.toNat_inj.1
  rw [toNat_lowerChar, toNat_lowerChar, lowerNat_idem]

theorem upperChar_idem (c : Char) : upperChar (upperChar c) = upperChar c := by
  apply Char.toNat_inj.1
  rw [toNat_upperChar, toNat_upperChar, upperNat_idem]

theorem isSpaceNat_lowerNat (n : Nat) : isSpaceNat (lowerNat n) = isSpaceNat n := by
  unfold lowerNat
  split
  · rw [isSpaceNat_of_range (by omega), isSpaceNat_of_range (by omega)]
  · split
    · rw [isSpaceNat_of_range (by omega), isSpaceNat_of_range (by omega)]
    · rfl

theorem isSpaceNat_upperNat (n : Nat) : isSpaceNat (upperNat n) = isSpaceNat n := by
  unfold upperNat
  split
  · rw [isSpaceNat_of_range (by omega), isSpaceNat_of_range (by omega)]
  · split
    · rw [isSpaceNat_of_range (by omega), isSpaceNat_of_range (by omega)]
    · rfl

theorem isSpace_lowerChar (c : Char) : isSpace (lowerChar c) = isSpace c := by
  rw [isSpace_eq, isSpace_eq, toNat_lowerChar, isSpaceNat_lowerNat]

theorem isSpace_upperChar (c : Char) : isSpace (upperChar c) = isSpace c := by
  rw [isSpace_eq, isSpace_eq, toNat_upperChar, isSpaceNat_upperNat]

theorem headNot_dropWhile (p : Char → Bool) (s : Str) : HeadNot p (s.dropWhile p) := fun c hc => by
  have := List.head?_dropWhile_not p s
  rwa [hc] at this

theorem headNot_of_prefix {p : Char → Bool} {a b : Str} (hp : b <+: a) (h : HeadNot p a) : HeadNot p b := by
  obtain ⟨t, rfl⟩ := hp
  intro c hc
  cases b with
  | nil => simp at hc
  | cons x r => exact h c (by simpa using hc)

theorem dropWhileEnd_prefix (p : Char → Bool) (s : Str) : dropWhileEnd p s <+: s := by
  unfold dropWhileEnd
  have : s.reverse.dropWhile p <:+ s.reverse := List.dropWhile_suffix p
  have h2 := List.reverse_prefix.2 this
  simpa using h2

theorem strip_eq_trim (s : Str) : strip s = trim isSpace s := rfl
theorem stripChars_eq_trim (cs s : Str) : stripChars cs s = trim (fun c => cs.contains c) s := rfl

/-- a trimmed text neither begins nor ends with a character to strip -/
theorem trim_idem (p : Char → Bool) (s : Str) : trim p (trim p s) = trim p s :=
  trim_eq_self_of_ends (headNot_of_prefix (dropWhileEnd_prefix p _) (headNot_dropWhile p s))
    (by rw [trim, dropWhileEnd, List.reverse_reverse]; exact headNot_dropWhile p _)

theorem strip_idem (s : Str) : strip (strip s) = strip s := trim_idem _ s
theorem stripChars_idem (cs s : Str) : stripChars cs (stripChars cs s) = stripChars cs s := trim_idem _ s

/-- `_of_inv`: `p` is invariant under `f` -/
theorem dropWhile_map_of_inv {p : Char → Bool} {f : Char → Char} (h : ∀ c, p (f c) = p c) (s : Str) :
    (s.map f).dropWhile p = (s.dropWhile p).map f := by
  rw [List.dropWhile_map, show p ∘ f = p from funext h]

theorem trim_map_of_inv {p : Char → Bool} {f : Char → Char} (h : ∀ c, p (f c) = p c) (s : Str) :
    trim p (s.map f) = (trim p s).map f := by
  unfold trim dropWhileEnd
  rw [dropWhile_map_of_inv h, ← List.map_reverse, dropWhile_map_of_inv h, List.map_reverse]

theorem map_idem {f : Char → Char} (h : ∀ c, f (f c) = f c) (s : Str) : (s.map f).map f = s.map f := by
  simp [List.map_map, Function.comp_def, h]

theorem lower_idem (s : Str) : lower (lower s) = lower s := map_idem lowerChar_idem s
theorem upper_idem (s : Str) : upper (upper s) = upper s := map_idem upperChar_idem s

theorem strip_lower (s : Str) : strip (lower s) = lower (strip s) := trim_map_of_inv isSpace_lowerChar s
theorem strip_upper (s : Str) : strip (upper s) = upper (strip s) := trim_map_of_inv isSpace_upperChar s

theorem map_eq_self {f : Char → Char} (s : Str) (h : ∀ c ∈ s, f c = c) : s.map f = s :=
  (List.map_congr_left h).trans (List.map_id s)

theorem fix_of_mem_trim_map {p : Char → Bool} {f : Char → Char} (h : ∀ c, f (f c) = f c) (s : Str) :
    ∀ c ∈ trim p (s.map f), f c = c := by
  intro c hc
  obtain ⟨d, _, rfl⟩ := List.mem_map.1 ((List.dropWhile_suffix p).subset ((dropWhileEnd_prefix p _).subset hc))
  exact h d

theorem map_trim_map {p : Char → Bool} {f : Char → Char} (h : ∀ c, f (f c) = f c) (s : Str) :
    (trim p (s.map f)).map f = trim p (s.map f) :=
  map_eq_self _ (fix_of_mem_trim_map h s)

theorem lowerChar_of_mem_stripChars_lower (cs u : Str) : ∀ c ∈ stripChars cs (lower u), lowerChar c = c :=
  fix_of_mem_trim_map lowerChar_idem u
theorem upperChar_of_mem_stripChars_upper (cs u : Str) : ∀ c ∈ stripChars cs (upper u), upperChar c = c :=
  fix_of_mem_trim_map upperChar_idem u

theorem lower_stripChars_lower (cs u : Str) : lower (stripChars cs (lower u)) = stripChars cs (lower u) :=
  map_trim_map lowerChar_idem u
theorem upper_stripChars_upper (cs u : Str) : upper (stripChars cs (upper u)) = stripChars cs (upper u) :=
  map_trim_map upperChar_idem u

end Cinco.Str
