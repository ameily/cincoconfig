import Cinco.Crypto.Cipher
/-
  The two providers invert: XOR byte by byte; AES as PKCS7 padding around CBC around a block function that is only assumed
  lawful.  `blocks` and `flatten` are inverse to each other between byte strings of whole blocks and lists of 16-byte blocks,
  so CBC is reasoned about on lists of blocks (`cbcDec_cbcEnc`) and PKCS7 on byte strings (`unpad_append_replicate`).
-/
namespace Cinco.Crypto

theorem xor_cancel (b k : UInt8) : (b ^^^ k) ^^^ k = b := by
  rw [UInt8.xor_assoc, UInt8.xor_self, UInt8.xor_zero]

theorem xorKey_getElem? (key p : Bytes) (i : Nat) :
    (xorKey key p)[i]? = p[i]?.map (fun b => match key[i % key.length]? with
      | some k => b ^^^ k
      | none => b) := by
  simp only [xorKey, List.getElem?_mapIdx]
  cases p[i]? <;> rfl

/-- also the `AddRoundKey` involution of AES: `Aes.xorBytes` is the same `List.zipWith` -/
theorem xorB_cancel (b iv : Bytes) (h : b.length ≤ iv.length) : xorB (xorB b iv) iv = b := by
  induction b generalizing iv with
  | nil => simp [xorB]
  | cons x xs ih =>
    cases iv with
    | nil => simp at h
    | cons y ys =>
      have := ih ys (by simpa using h)
      simp only [xorB, List.zipWith_cons_cons, List.cons.injEq] at this ⊢
      exact ⟨xor_cancel x y, this⟩

theorem xorB_length (a b : Bytes) : (xorB a b).length = min a.length b.length := by
  simp [xorB]

theorem padLen_pos (n : Nat) : 0 < padLen n ∧ padLen n ≤ 16 := by
  unfold padLen; omega

theorem pad_length (p : Bytes) : (pad p).length = 16 * (p.length / 16 + 1) := by
  simp only [pad, List.length_append, List.length_replicate, padLen]
  omega

theorem pad_length_mod (p : Bytes) : (pad p).length % 16 = 0 := by
  rw [pad_length, Nat.mul_mod_right]

theorem unpad_append_replicate (p : Bytes) (n : Nat) (h0 : 0 < n) (h16 : n ≤ 16) (hm : (p.length + n) % 16 = 0) :
    unpad (p ++ List.replicate n (UInt8.ofNat n)) = some p := by
  have hlast : (p ++ List.replicate n (UInt8.ofNat n)).getLast? = some (UInt8.ofNat n) := by
    rw [List.getLast?_append, List.getLast?_replicate, if_neg (by omega)]; rfl
  have hton : (UInt8.ofNat n).toNat = n := UInt8.toNat_ofNat_of_lt' (Nat.lt_of_le_of_lt h16 (by decide))
  simp only [unpad, hlast, hton, List.length_append, List.length_replicate, Nat.add_sub_cancel, List.drop_left,
    List.take_left]
  rw [if_neg (by omega), if_neg (by omega), if_pos (by simp)]

theorem unpad_pad (p : Bytes) : unpad (pad p) = some p := by
  have := padLen_pos p.length
  exact unpad_append_replicate p _ this.1 this.2 (by unfold padLen; omega)

/-! `blocksAux` on the two shapes of data; the lemmas below match on the data as well as on the fuel. -/

theorem blocksAux_nil (n : Nat) : blocksAux n [] = [] := by cases n <;> rfl

theorem blocksAux_cons (n : Nat) (x : UInt8) (xs : Bytes) :
    blocksAux (n + 1) (x :: xs) = (x :: xs).take 16 :: blocksAux n ((x :: xs).drop 16) := rfl

theorem flatten_blocksAux (n : Nat) (d : Bytes) (h : d.length ≤ n) : (blocksAux n d).flatten = d := by
  induction n generalizing d with
  | zero => rw [List.eq_nil_of_length_eq_zero (Nat.le_zero.1 h)]; rfl
  | succ n ih =>
    cases d with
    | nil => rfl
    | cons x xs =>
      rw [blocksAux_cons, List.flatten_cons, ih _ (by simp at h ⊢; omega), List.take_append_drop]

theorem flatten_blocks (d : Bytes) : (blocks d).flatten = d := flatten_blocksAux _ _ (Nat.le_refl _)

theorem blocksAux_mem_length (n : Nat) (d : Bytes) (h : d.length ≤ n) (hm : d.length % 16 = 0) :
    ∀ b ∈ blocksAux n d, b.length = 16 := by
  induction n generalizing d with
  | zero => rw [List.eq_nil_of_length_eq_zero (Nat.le_zero.1 h)]; exact nofun
  | succ n ih =>
    cases d with
    | nil => exact nofun
    | cons x xs =>
      rw [blocksAux_cons, List.forall_mem_cons]
      simp only [List.length_cons] at h hm
      exact ⟨by simp; omega, ih _ (by simp; omega) (by simp; omega)⟩

theorem blocks_mem_length (d : Bytes) (hm : d.length % 16 = 0) : ∀ b ∈ blocks d, b.length = 16 :=
  blocksAux_mem_length _ _ (Nat.le_refl _) hm

theorem blocksAux_flatten (bs : List Bytes) (n : Nat) (h : ∀ b ∈ bs, b.length = 16) (hn : bs.flatten.length ≤ n) :
    blocksAux n bs.flatten = bs := by
  induction bs generalizing n with
  | nil => exact blocksAux_nil n
  | cons b bs ih =>
    obtain ⟨hb, hbs⟩ := List.forall_mem_cons.1 h
    rw [List.flatten_cons, List.length_append, hb] at hn
    cases b with
    | nil => cases hb
    | cons x xs =>
      cases n with
      | zero => omega
      | succ n =>
        rw [List.flatten_cons, List.cons_append, blocksAux_cons, ← List.cons_append, List.take_left' hb,
          List.drop_left' hb, ih n hbs (by omega)]

theorem blocks_flatten (bs : List Bytes) (h : ∀ b ∈ bs, b.length = 16) : blocks bs.flatten = bs :=
  blocksAux_flatten bs _ h (Nat.le_refl _)

theorem cbcEnc_mem_length (C : BlockCipher) (hC : C.Lawful) (k : Bytes) (bs : List Bytes) (iv : Bytes) (hiv : iv.length = 16)
    (h : ∀ b ∈ bs, b.length = 16) : ∀ c ∈ cbcEnc C k iv bs, c.length = 16 := by
  induction bs generalizing iv with
  | nil => exact nofun
  | cons b bs ih =>
    obtain ⟨hb, hbs⟩ := List.forall_mem_cons.1 h
    have hc := hC.enc_len k (xorB b iv) (by simp [xorB_length, hb, hiv])
    exact List.forall_mem_cons.2 ⟨hc, ih _ hc hbs⟩

theorem cbcDec_cbcEnc (C : BlockCipher) (hC : C.Lawful) (k : Bytes) (bs : List Bytes) (iv : Bytes) (hiv : iv.length = 16)
    (h : ∀ b ∈ bs, b.length = 16) : cbcDec C k iv (cbcEnc C k iv bs) = bs := by
  induction bs generalizing iv with
  | nil => rfl
  | cons b bs ih =>
    obtain ⟨hb, hbs⟩ := List.forall_mem_cons.1 h
    have hx : (xorB b iv).length = 16 := by simp [xorB_length, hb, hiv]
    rw [cbcEnc, cbcDec, hC.dec_enc k _ hx, xorB_cancel b iv (by omega), ih _ (hC.enc_len k _ hx) hbs]

theorem cbcEnc_length (C : BlockCipher) (k : Bytes) (bs : List Bytes) (iv : Bytes) : (cbcEnc C k iv bs).length = bs.length := by
  induction bs generalizing iv with
  | nil => rfl
  | cons b bs ih => simp [cbcEnc, ih]

theorem flatten_length_of_mem_length (bs : List Bytes) (h : ∀ b ∈ bs, b.length = 16) : bs.flatten.length = 16 * bs.length := by
  induction bs with
  | nil => rfl
  | cons b bs ih =>
    obtain ⟨hb, hbs⟩ := List.forall_mem_cons.1 h
    rw [List.flatten_cons, List.length_append, List.length_cons, ih hbs, hb]
    omega

theorem cbcEnc_flatten_length (C : BlockCipher) (hC : C.Lawful) (k : Bytes) (bs : List Bytes) (iv : Bytes)
    (hiv : iv.length = 16) (h : ∀ b ∈ bs, b.length = 16) : (cbcEnc C k iv bs).flatten.length = bs.flatten.length := by
  rw [flatten_length_of_mem_length _ (cbcEnc_mem_length C hC k bs iv hiv h), cbcEnc_length, flatten_length_of_mem_length _ h]

theorem aesEncrypt_take (C : BlockCipher) (k iv p : Bytes) (hiv : iv.length = 16) : (aesEncrypt C k iv p).take 16 = iv :=
  List.take_left' hiv

theorem aesDecrypt_append (C : BlockCipher) (k iv body : Bytes) (hiv : iv.length = 16) (h16 : 16 ≤ body.length)
    (hm : body.length % 16 = 0) :
    aesDecrypt C k (iv ++ body) =
      match unpad (cbcDec C k iv (blocks body)).flatten with
      | some p => .ok p
      | none => .error .badPadding := by
  rw [aesDecrypt, if_neg (by rw [List.length_append]; omega), List.take_left' hiv, List.drop_left' hiv, if_neg (by omega)]
  rfl

end Cinco.Crypto
