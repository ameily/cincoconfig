import Cinco.Field.Net
import Cinco.Proofs.Str
/-
  Round trips between the IPv4 address / network printers and parsers of `Cinco.Field.Net`.  An octet or an address that
  parses is the print of its value: the parts of a split text join to the text (`intercalate_splitOn`), and an octet that
  parses is a numeral without leading zero, which `Nat.toDigits` prints back (`parseOctet_inv`).  A print parses to its
  value: its parts contain no separator, and each octet below 256 is read back (`parseOctet_natRepr`, by evaluation).
  A network text need not be the print of its value (`10.0.0.0/255.0.0.0`); for networks only the second half holds, at
  the value of any text that parses (`parseNet_canonical`).
-/
namespace Cinco.Net
open Cinco Cinco.Str

theorem parseOctet_natRepr : ∀ n, n < 256 → parseOctet (natRepr n) = some n := by
  decide +kernel

theorem parseOctet_inv {s : Str} {n : Nat} (h : parseOctet s = some n) : n ≤ 255 ∧ natRepr n = s := by
  unfold parseOctet at h
  split at h
  · cases h
  · next h1 =>
    split at h
    · cases h
    · next h2 =>
      simp only [Bool.or_eq_true, Bool.not_eq_true', not_or, Bool.not_eq_false, List.all_eq_true, List.isEmpty_iff] at h1
      dsimp only at h
      split at h
      · next h3 =>
        cases h
        refine ⟨h3, toDigits_ofDigitChars h1.1.1 h1.2 fun hl hh => h2 ?_⟩
        simp [hl, hh]
      · cases h

theorem splitOn_ne_nil (c : Char) (s : Str) : splitOn c s ≠ [] := by
  cases s with
  | nil => simp [splitOn]
  | cons x rest =>
    unfold splitOn
    split
    · simp
    · split <;> simp

theorem splitOn_of_not_mem {c : Char} {a : Str} (h : c ∉ a) : splitOn c a = [a] := by
  induction a with
  | nil => rfl
  | cons x rest ih =>
    have hx : (x == c) = false := by
      simp only [beq_eq_false_iff_ne, ne_eq]; intro e; subst e; simp at h
    have hr : c ∉ rest := fun hm => h (by simp [hm])
    simp [splitOn, hx, ih hr]

theorem splitOn_append_sep {c : Char} (rest : Str) {a : Str} (h : c ∉ a) :
    splitOn c (a ++ c :: rest) = a :: splitOn c rest := by
  induction a with
  | nil => simp [splitOn]
  | cons x a ih =>
    have hx : (x == c) = false := by
      simp only [beq_eq_false_iff_ne, ne_eq]; intro e; subst e; simp at h
    have hr : c ∉ a := fun hm => h (by simp [hm])
    simp [splitOn, hx, ih hr]

theorem intercalate_splitOn (c : Char) (s : Str) : [c].intercalate (splitOn c s) = s := by
  induction s with
  | nil => rfl
  | cons x s ih =>
    unfold splitOn
    cases h : splitOn c s with
    | nil => exact absurd h (splitOn_ne_nil c s)
    | cons p ps =>
      rw [h] at ih
      split
      next hx => simpa [List.intercalate, eq_of_beq hx] using ih
      next => cases ps <;> simpa [List.intercalate] using ih

theorem isDigit_of_mem_natRepr {k : Nat} {c : Char} (h : c ∈ natRepr k) : c.isDigit = true :=
  isDigit_toDigits h

theorem not_mem_natRepr {c : Char} (hc : c.isDigit = false) (k : Nat) : c ∉ natRepr k :=
  fun h => Bool.false_ne_true (hc.symm.trans (isDigit_of_mem_natRepr h))

theorem octet_step (m z : Nat) (hz : z < 256) : (m * 256 + z) / 256 = m ∧ (m * 256 + z) % 256 = z := by
  omega

/-- octet by octet: one `omega` over all four octets is several times dearer -/
theorem octets_of_quad {w x y z : Nat} (hw : w < 256) (hx : x < 256) (hy : y < 256) (hz : z < 256) :
    (((w * 256 + x) * 256 + y) * 256 + z) / 16777216 % 256 = w ∧ (((w * 256 + x) * 256 + y) * 256 + z) / 65536 % 256 = x ∧
    (((w * 256 + x) * 256 + y) * 256 + z) / 256 % 256 = y ∧ (((w * 256 + x) * 256 + y) * 256 + z) % 256 = z := by
  have e1 := octet_step ((w * 256 + x) * 256 + y) z hz
  have e2 := octet_step (w * 256 + x) y hy
  have e3 := octet_step w x hx
  rw [show 16777216 = 256 * 256 * 256 from rfl, show 65536 = 256 * 256 from rfl, ← Nat.div_div_eq_div_mul,
    ← Nat.div_div_eq_div_mul, e1.1, e1.2, e2.1, e2.2, e3.1, e3.2, Nat.mod_eq_of_lt hw]
  exact ⟨rfl, rfl, rfl, rfl⟩

theorem quad_of_octets {n : Nat} (h : n < 4294967296) :
    ((n / 16777216 % 256 * 256 + n / 65536 % 256) * 256 + n / 256 % 256) * 256 + n % 256 = n := by
  rw [show 16777216 = 256 * 256 * 256 from rfl, show 65536 = 256 * 256 from rfl, ← Nat.div_div_eq_div_mul,
    ← Nat.div_div_eq_div_mul, Nat.mod_eq_of_lt (a := n / 256 / 256 / 256) (by omega), Nat.div_add_mod', Nat.div_add_mod',
    Nat.div_add_mod']

theorem parseAddr_printAddr (n : Nat) (h : n < 4294967296) : parseAddr (printAddr n) = some n := by
  unfold parseAddr printAddr
  simp only [List.append_assoc, List.cons_append, List.nil_append]
  rw [splitOn_append_sep _ (not_mem_natRepr rfl _), splitOn_append_sep _ (not_mem_natRepr rfl _),
    splitOn_append_sep _ (not_mem_natRepr rfl _), splitOn_of_not_mem (not_mem_natRepr rfl _)]
  simp only
  rw [parseOctet_natRepr _ (Nat.mod_lt _ (by omega)), parseOctet_natRepr _ (Nat.mod_lt _ (by omega)),
    parseOctet_natRepr _ (Nat.mod_lt _ (by omega)), parseOctet_natRepr _ (Nat.mod_lt _ (by omega))]
  simp only [Option.some.injEq]
  exact quad_of_octets h

theorem printAddr_of_parseAddr (s : Str) (n : Nat) (h : parseAddr s = some n) :
    printAddr n = s ∧ n < 4294967296 := by
  unfold parseAddr at h
  split at h
  · next a b c d hs =>
    split at h
    · next w x y z hw hx hy hz =>
      cases h
      obtain ⟨bw, ew⟩ := parseOctet_inv hw
      obtain ⟨bx, ex⟩ := parseOctet_inv hx
      obtain ⟨By, ey⟩ := parseOctet_inv hy
      obtain ⟨bz, ez⟩ := parseOctet_inv hz
      refine ⟨?_, by omega⟩
      obtain ⟨e1, e2, e3, e4⟩ := octets_of_quad (Nat.lt_succ_of_le bw) (Nat.lt_succ_of_le bx) (Nat.lt_succ_of_le By)
        (Nat.lt_succ_of_le bz)
      have hj := intercalate_splitOn '.' s
      rw [hs] at hj
      unfold printAddr
      rw [e1, e2, e3, e4, ew, ex, ey, ez, ← hj]
      simp [List.intercalate]
    · cases h
  · cases h

theorem slash_not_mem_printAddr (n : Nat) : '/' ∉ printAddr n := by
  unfold printAddr
  simp [not_mem_natRepr (c := '/') rfl]

theorem parsePrefix_natRepr (p : Nat) (hp : p ≤ 32) : parsePrefix (natRepr p) = some p := by
  have hd : (natRepr p).all Char.isDigit = true :=
    List.all_eq_true.2 fun c hc => isDigit_of_mem_natRepr hc
  have hne : (natRepr p).isEmpty = false := by
    simp [natRepr, Nat.toDigits_ne_nil]
  unfold parsePrefix
  simp only [hd, hne]
  simp [natRepr, hp]

theorem parseNet_printNet (n p : Nat) (hn : n < 4294967296) (hp : p ≤ 32)
    (hb : n % 2 ^ (32 - p) = 0) : parseNet (printNet n p) = some (n, p) := by
  unfold parseNet printNet
  simp only [List.append_assoc, List.cons_append, List.nil_append]
  rw [splitOn_append_sep _ (slash_not_mem_printAddr n), splitOn_of_not_mem (not_mem_natRepr rfl p)]
  simp only
  rw [parseAddr_printAddr n hn, parsePrefix_natRepr p hp]
  simp [hb]

theorem prefixFromInt_le {m p : Nat} (h : prefixFromInt m = some p) : p ≤ 32 := by
  unfold prefixFromInt at h
  simp only at h
  generalize (if (m == 0) = true then 32 else trailingZeros 32 m) = tz at h
  split at h
  · cases h; omega
  · cases h

theorem parsePrefix_le {s : Str} {p : Nat} (h : parsePrefix s = some p) : p ≤ 32 := by
  unfold parsePrefix at h
  split at h
  · dsimp only at h
    split at h
    · cases h; assumption
    · cases h
  · split at h
    · cases h
    · split at h
      next hp => cases h; exact prefixFromInt_le hp
      · exact prefixFromInt_le h

theorem parseNet_inv {s : Str} {n p : Nat} (h : parseNet s = some (n, p)) :
    n < 4294967296 ∧ p ≤ 32 ∧ n % 2 ^ (32 - p) = 0 := by
  unfold parseNet at h
  split at h
  next a _ =>
    obtain ⟨m, ha, hm⟩ := Option.map_eq_some_iff.1 h
    cases hm
    exact ⟨(printAddr_of_parseAddr a n ha).2, Nat.le_refl _, Nat.mod_one n⟩
  next a m _ =>
    split at h
    next x q ha hm =>
      dsimp only at h
      split at h
      next hb =>
        cases h
        exact ⟨(printAddr_of_parseAddr a n ha).2, parsePrefix_le hm, by simpa using hb⟩
      · cases h
    · cases h
  · cases h

theorem parseNet_canonical (s : Str) (n p : Nat) (h : parseNet s = some (n, p)) : parseNet (printNet n p) = some (n, p) :=
  let ⟨hn, hp, hb⟩ := parseNet_inv h
  parseNet_printNet n p hn hp hb

end Cinco.Net
