import Cinco.Config.Schema
/-
  The walk "for every declared leaf, a clause about the value held for it, and the same in every sub-configuration" that the
  invariant of C01 (`inv_iff_allLeaves`, Proofs/Inv.lean), the premises of the round trip and Props/C01b share: `AllLeaves P`,
  its schema side `SchemaLeaves Q`, and the lemma that passes from one `P` to another (`allLeaves_imp`, under a condition on the
  declarations; `allLeaves_mono` without one).
-/
namespace Cinco.Config
open Cinco Cinco.Field

/-- `P fs v` for every leaf value `v` held under a declared leaf field `fs`, at every depth (to depth `d`) -/
def AllLeaves (P : FieldSpec → Val → Prop) : Nat → Schema → Cfg → Prop
  | 0, _, _ => True
  | d + 1, s, c => ∀ k f, s.get k = some f →
      match f, c.get k with
      | .leaf fs _, some (.val v) => P fs v
      | .sub s', some (.node sub) => AllLeaves P d s' sub
      | .ctype s' _, some (.node sub) => AllLeaves P d s' sub
      | .cfgList s' _ _ _, some (.nodes cs) => ∀ x ∈ cs, AllLeaves P d s' x
      | _, _ => True

/-- the clause of `AllLeaves` for one declared field and the slot held for it -/
def LeavesAt (P : FieldSpec → Val → Prop) (d : Nat) : SField → Option Slot → Prop
  | .leaf fs _, some (.val v) => P fs v
  | .sub s', some (.node sub) => AllLeaves P d s' sub
  | .ctype s' _, some (.node sub) => AllLeaves P d s' sub
  | .cfgList s' _ _ _, some (.nodes cs) => ∀ x ∈ cs, AllLeaves P d s' x
  | _, _ => True

theorem allLeaves_succ_iff {P : FieldSpec → Val → Prop} {d : Nat} {s : Schema} {c : Cfg} :
    AllLeaves P (d + 1) s c ↔ ∀ k f, s.get k = some f → LeavesAt P d f (c.get k) := Iff.rfl

/-- `Q fs` for every leaf field declared in the schema, at every depth (to depth `d`) -/
def SchemaLeaves (Q : FieldSpec → Prop) : Nat → Schema → Prop
  | 0, _ => True
  | d + 1, s => ∀ k f, s.get k = some f →
      match f with
      | .leaf fs _ => Q fs
      | .sub s' => SchemaLeaves Q d s'
      | .ctype s' _ => SchemaLeaves Q d s'
      | .cfgList s' _ _ _ => SchemaLeaves Q d s'
      | _ => True

theorem allLeaves_imp {P P' : FieldSpec → Val → Prop} {Q : FieldSpec → Prop} (hPQ : ∀ fs v, Q fs → P fs v → P' fs v)
    (d : Nat) (s : Schema) (c : Cfg) (hq : SchemaLeaves Q d s) (hp : AllLeaves P d s c) : AllLeaves P' d s c := by
  induction d generalizing s c with
  | zero => trivial
  | succ d ih =>
    intro k f hk
    have hq := hq k f hk
    have hp : LeavesAt P d f (c.get k) := hp k f hk
    show LeavesAt P' d f (c.get k)
    generalize c.get k = sl at hp ⊢
    -- every (field, slot) pair but these four has the clause `True`
    cases f <;> rcases sl with _ | (v | x | cs) <;> simp only [LeavesAt] at hp ⊢
    · exact hPQ _ v hq hp
    · exact ih _ x hq hp
    · exact ih _ x hq hp
    · exact fun y hy => ih _ y hq (hp y hy)

theorem allLeaves_true (d : Nat) (s : Schema) (c : Cfg) : AllLeaves (fun _ _ => True) d s c := by
  induction d generalizing s c with
  | zero => trivial
  | succ d ih =>
    intro k f _
    show LeavesAt _ d f (c.get k)
    generalize c.get k = sl
    cases f <;> rcases sl with _ | (v | x | cs) <;> simp only [LeavesAt]
    · exact ih _ x
    · exact ih _ x
    · exact fun y _ => ih _ y

theorem schemaLeaves_true (d : Nat) (s : Schema) : SchemaLeaves (fun _ => True) d s := by
  induction d generalizing s with
  | zero => trivial
  | succ d ih =>
    intro k f _
    cases f with
    | sub s' | ctype s' _ | cfgList s' _ _ _ => exact ih s'
    | leaf _ _ | virtual _ _ | method => trivial

theorem allLeaves_mono {P P' : FieldSpec → Val → Prop} (hPP : ∀ fs v, P fs v → P' fs v)
    (d : Nat) (s : Schema) (c : Cfg) (h : AllLeaves P d s c) : AllLeaves P' d s c :=
  allLeaves_imp (Q := fun _ => True) (fun fs v _ => hPP fs v) d s c (schemaLeaves_true d s) h

end Cinco.Config
