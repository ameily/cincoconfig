import Cinco.Proofs.Defined
/-
  What an operation on the declared leaf keys of one configuration level does, computed from the world and the schema only, in
  two readings: whether it is accepted and which keys it assigns (`C12b.assignAccepts`, `resetAccepts`, `entryEffect` /
  `loadAssigned` / `loadStops`: the status machine of C12b), and which values it stores (`C14b.assignStores`, `C14b.resetStores`,
  `ValueSpec.entryValue` / `ValueSpec.loadValues`: the value machine of C14b).  The first reading is a projection of the second
  (`assignStores_isSome`, `resetStores_isSome`, `loadValues_keys`).  For `load_tree` the model is compared with them here, once
  (`loadTree_leaves`: the configuration after the load is the one before with `loadValues` assigned, first to last), which is
  why these definitions of the two machines stand here, before Props/C12b.lean and Props/C14b.lean.
  `Slots` — a plain map from key to slot — with `put` / `putAll` is what `Cfg.get` is compared with.
-/
namespace Cinco.C12b
open Cinco Cinco.Field Cinco.Config Cinco.Config.Defined

/-- the operations of the property on the keys of one configuration (the root): assignment of a plain value, a tree load,
    a reset.  Argument types as the model takes them: `setValue … k (.val v)`, `loadTree … tree validate`,
    `resetValue … k.toList`. -/
inductive KeyOp where
  | assign (k : String) (v : Val)
  | load (tree : List (Val × Val)) (validate : Bool)
  | reset (k : String)

def KeyOp.isAssign : KeyOp → Bool
  | .assign _ _ => true
  | .load _ _ => false
  | .reset _ => false

def leafOf : Option SField → Option (FieldSpec × LeafMeta)
  | some (.leaf fs m) => some (fs, m)
  | some (.sub _) => none
  | some (.ctype _ _) => none
  | some (.cfgList _ _ _ _) => none
  | some (.virtual _ _) => none
  | some .method => none
  | none => none

def isLeafKey (s : Schema) (k : String) : Bool := (leafOf (s.get k)).isSome

theorem leafOf_some {o : Option SField} {fs : FieldSpec} {m : LeafMeta} (h : leafOf o = some (fs, m)) : o = some (.leaf fs m) := by
  cases o with
  | none => cases h
  | some f => cases f <;> cases h <;> rfl

theorem isLeafKey_get {s : Schema} {k : String} (h : isLeafKey s k = true) : ∃ fs m, s.get k = some (.leaf fs m) := by
  unfold isLeafKey at h
  cases hl : leafOf (s.get k) with
  | none => simp [hl] at h
  | some p => exact ⟨p.1, p.2, leafOf_some hl⟩

/-- what `load_tree` does with one entry whose key is a declared leaf: skip it (the leaf is bound to a set environment
    variable), assign it (decoded by `to_python`, accepted by `validate`), or raise -/
inductive EntryEffect where
  | skip
  | assign (k : String)
  | stop
  deriving DecidableEq

def entryEffect (W : World) (s : Schema) (key value : Val) : EntryEffect :=
  match key with
  | .str ks =>
    (match leafOf (s.get (String.ofList ks)) with
     | some (fs, m) =>
       if (envValue W m).isSome then .skip
       else (match toPython W.fe fs value with
         | .ok v => if okB (validate W.fe.toEnv fs v) then .assign (String.ofList ks) else .stop
         | .error _ => .stop)
     | none => .stop)
  | _ => .stop

/-- the keys a load assigns, in order: everything up to the first entry that raises -/
def loadAssigned (W : World) (s : Schema) : List (Val × Val) → List String
  | [] => []
  | (key, value) :: rest =>
    match entryEffect W s key value with
    | .skip => loadAssigned W s rest
    | .assign k => k :: loadAssigned W s rest
    | .stop => []

/-- does some entry raise? -/
def loadStops (W : World) (s : Schema) : List (Val × Val) → Bool
  | [] => false
  | (key, value) :: rest =>
    match entryEffect W s key value with
    | .skip => loadStops W s rest
    | .assign _ => loadStops W s rest
    | .stop => true

/-- the keys in play are declared leaves of the schema (and a reset key is a key of this configuration, not a dotted path) -/
def OpOk (s : Schema) : KeyOp → Prop
  | .assign k _ => isLeafKey s k = true
  | .load tree _ => ∀ ks value, (Val.str ks, value) ∈ tree → isLeafKey s (String.ofList ks) = true
  | .reset k => isLeafKey s k = true ∧ '.' ∉ k.toList

/-- `OpOk` as a check that evaluates, for concrete histories -/
def opOkB (s : Schema) : KeyOp → Bool
  | .assign k _ => isLeafKey s k
  | .load tree _ => tree.all fun e => match e.1 with | .str ks => isLeafKey s (String.ofList ks) | _ => true
  | .reset k => isLeafKey s k && !k.toList.contains '.'

theorem OpOk.of_check {s : Schema} {ops : List KeyOp} (h : ops.all (opOkB s) = true) : ∀ op ∈ ops, OpOk s op := by
  intro op hop
  have hb := List.all_eq_true.1 h op hop
  cases op with
  | assign k v => exact hb
  | load tree dv => exact fun ks value hm => List.all_eq_true.1 hb (.str ks, value) hm
  | reset k => simpa [opOkB, OpOk] using hb

/-- an assignment to a declared leaf is accepted exactly when the field's validation returns -/
def assignAccepts (W : World) (s : Schema) (k : String) (v : Val) : Bool :=
  match leafOf (s.get k) with
  | some (fs, _) => okB (validate W.fe.toEnv fs v)
  | none => false

/-- a reset of a declared leaf is accepted exactly when its `__setdefault__` returns (a set environment variable or a
    container default is validated there and may be rejected) -/
def resetAccepts (W : World) (s : Schema) (k : String) : Bool :=
  match leafOf (s.get k) with
  | some (fs, m) => okB (leafDefault W "" k fs m)
  | none => false

theorem entryEffect_nonstr (W : World) (s : Schema) (key value : Val) (h : ∀ ks, key ≠ .str ks) :
    entryEffect W s key value = .stop := by
  cases key with
  | str ks => exact absurd rfl (h ks)
  | _ => rfl

theorem entryEffect_leaf (W : World) (s : Schema) (ks : List Char) (value : Val) {fs : FieldSpec} {m : LeafMeta}
    (hf : s.get (String.ofList ks) = some (.leaf fs m)) :
    entryEffect W s (.str ks) value =
      (if (envValue W m).isSome then .skip
       else (match toPython W.fe fs value with
         | .ok v => if okB (validate W.fe.toEnv fs v) then .assign (String.ofList ks) else .stop
         | .error _ => .stop)) := by
  simp only [entryEffect, hf, leafOf]

end Cinco.C12b

namespace Cinco.C14b
open Cinco Cinco.Field Cinco.Config Cinco.Config.Defined Cinco.C12b

/-- what an accepted assignment to a leaf declared as `fs` stores: the value the field's `validate` returns (`setValue_leaf`);
    `none` = rejected -/
def storedBy (W : World) (fs : FieldSpec) (v : Val) : Option Val :=
  match validate W.fe.toEnv fs v with
  | .ok v' => some v'
  | .error _ => none

/-- what the assignment `k := v` stores (`storedBy` at the leaf declared under `k`); `none` = rejected, or `k` is no
    declared leaf -/
def assignStores (W : World) (s : Schema) (k : String) (v : Val) : Option Val :=
  match leafOf (s.get k) with
  | some (fs, _) => storedBy W fs v
  | none => none

/-- what an accepted reset of a leaf stores: the value its `__setdefault__` computes (`leafDefault`); `none` = rejected -/
def defaultOf (W : World) (k : String) (fs : FieldSpec) (m : LeafMeta) : Option Val :=
  match leafDefault W "" k fs m with
  | .ok d => some d
  | .error _ => none

/-- what `reset k` stores (`defaultOf` at the leaf declared under `k`); `none` = rejected, or `k` is no declared leaf -/
def resetStores (W : World) (s : Schema) (k : String) : Option Val :=
  match leafOf (s.get k) with
  | some (fs, m) => defaultOf W k fs m
  | none => none

/-- does the operation write key `k` (according to the specification)? -/
def writes (W : World) (s : Schema) (k : String) : KeyOp → Bool
  | .assign k0 v => k0 == k && assignAccepts W s k0 v
  | .load tree _ => (loadAssigned W s tree).contains k
  | .reset k0 => k0 == k && resetAccepts W s k0

theorem assignStores_isSome (W : World) (s : Schema) (k : String) (v : Val) :
    (assignStores W s k v).isSome = assignAccepts W s k v := by
  unfold assignStores assignAccepts
  cases leafOf (s.get k) with
  | none => rfl
  | some p => simp only [storedBy]; cases validate W.fe.toEnv p.1 v <;> rfl

theorem resetStores_isSome (W : World) (s : Schema) (k : String) :
    (resetStores W s k).isSome = resetAccepts W s k := by
  unfold resetStores resetAccepts
  cases leafOf (s.get k) with
  | none => rfl
  | some p => simp only [defaultOf]; cases leafDefault W "" k p.1 p.2 <;> rfl

end Cinco.C14b

namespace Cinco.Config.ValueSpec
open Cinco Cinco.Field Cinco.Config Cinco.Config.Defined Cinco.C12b

/-- what a configuration level holds, as a plain function (`Cfg.get` of a configuration is one) -/
abbrev Slots := String → Option Slot

def Slots.put (A : Slots) (k : String) (sl : Slot) : Slots := fun k' => if k' = k then some sl else A k'

/-- store a list of values, first to last (a later entry for the same key wins) -/
def Slots.putAll (A : Slots) : List (String × Val) → Slots
  | [] => A
  | (k, v) :: rest => Slots.putAll (A.put k (.val v)) rest

theorem Slots.put_same (A : Slots) (k : String) (sl : Slot) : A.put k sl k = some sl := by simp [Slots.put]

theorem Slots.put_other (A : Slots) {k k' : String} (h : k' ≠ k) (sl : Slot) : A.put k sl k' = A k' := by simp [Slots.put, h]

theorem Slots.put_congr {A B : Slots} {k' : String} (h : A k' = B k') (k : String) (sl : Slot) : A.put k sl k' = B.put k sl k' := by
  simp only [Slots.put, h]

theorem Slots.putAll_congr (l : List (String × Val)) {A B : Slots} {k' : String} (h : A k' = B k') : A.putAll l k' = B.putAll l k' := by
  induction l generalizing A B with
  | nil => exact h
  | cons p rest ih => exact ih (Slots.put_congr h p.1 (.val p.2))

theorem Slots.putAll_not_mem (l : List (String × Val)) (A : Slots) (k' : String) (h : k' ∉ l.map (·.1)) : A.putAll l k' = A k' := by
  induction l generalizing A with
  | nil => rfl
  | cons p rest ih =>
    simp only [List.map_cons, List.mem_cons, not_or] at h
    rw [Slots.putAll, ih _ h.2, Slots.put_other A h.1]

theorem Slots.putAll_mem (l : List (String × Val)) (A : Slots) (k' : String) (h : k' ∈ l.map (·.1)) :
    ∃ v, (k', v) ∈ l ∧ A.putAll l k' = some (.val v) := by
  induction l generalizing A with
  | nil => simp at h
  | cons p rest ih =>
    obtain ⟨k, v⟩ := p
    by_cases hin : k' ∈ rest.map (·.1)
    · obtain ⟨v', hm, he⟩ := ih (A.put k (.val v)) hin
      exact ⟨v', List.mem_cons_of_mem _ hm, he⟩
    · simp only [List.map_cons, List.mem_cons] at h
      rcases h with h | h
      · subst h
        exact ⟨v, List.mem_cons_self .., by rw [Slots.putAll, Slots.putAll_not_mem rest _ k' hin, Slots.put_same]⟩
      · exact absurd h hin

theorem putAll_append (A : Slots) (l1 l2 : List (String × Val)) : A.putAll (l1 ++ l2) = (A.putAll l1).putAll l2 := by
  induction l1 generalizing A with
  | nil => rfl
  | cons p rest ih => obtain ⟨k, v⟩ := p; simp only [List.cons_append, Slots.putAll]; exact ih _

theorem get_setUser_eq_put (c : Cfg) (k : String) (sl : Slot) : (c.setUser k sl).get = Slots.put c.get k sl :=
  funext fun k' => Cfg.get_setUser c k k' sl

theorem get_setDefault_eq_put (c : Cfg) (k : String) (sl : Slot) : (c.setDefault k sl).get = Slots.put c.get k sl :=
  funext fun k' => Cfg.get_setDefault c k k' sl

/-- `C12b.EntryEffect` with the value an assigning entry stores -/
inductive EntryValue where
  | skip
  | assign (k : String) (v : Val)
  | stop

def validatedEntry (W : World) (fs : FieldSpec) (k : String) : Field.R Val → EntryValue
  | .ok u =>
    (match validate W.fe.toEnv fs u with
     | .ok v => .assign k v
     | .error _ => .stop)
  | .error _ => .stop

def leafEntry (W : World) (k : String) (value : Val) : Option (FieldSpec × LeafMeta) → EntryValue
  | some (fs, m) => if (envValue W m).isSome then .skip else validatedEntry W fs k (toPython W.fe fs value)
  | none => .stop

def keyString : Val → Option String
  | .str ks => some (String.ofList ks)
  | _ => none

/-- what `load_tree` does with one entry (the value-carrying twin of `C12b.entryEffect`, which takes the same decisions in one
    nested match).  In stages, each a function of what the one before found — `leafEntry` of the declaration looked up,
    `validatedEntry` of the decoded value — so that a lemma can rewrite that argument (`entryValue_leaf`,
    `C14b.entryValue_congr`). -/
def entryValue (W : World) (s : Schema) (key value : Val) : EntryValue :=
  match keyString key with
  | some k => leafEntry W k value (leafOf (s.get k))
  | none => .stop

/-- the `(key, value)` writes of a load, in order: everything up to the first entry that raises (the value-carrying twin
    of `C12b.loadAssigned`) -/
def loadValues (W : World) (s : Schema) : List (Val × Val) → List (String × Val)
  | [] => []
  | (key, value) :: rest =>
    match entryValue W s key value with
    | .skip => loadValues W s rest
    | .assign k v => (k, v) :: loadValues W s rest
    | .stop => []

def EntryValue.effect : EntryValue → EntryEffect
  | .skip => .skip
  | .assign k _ => .assign k
  | .stop => .stop

theorem keyString_str (ks : List Char) : keyString (.str ks) = some (String.ofList ks) := rfl

theorem keyString_nonstr (key : Val) (h : ∀ ks, key ≠ .str ks) : keyString key = none := by
  cases key with
  | str ks => exact absurd rfl (h ks)
  | _ => rfl

theorem entryValue_leaf (W : World) (s : Schema) (ks : List Char) (value : Val) {fs : FieldSpec} {m : LeafMeta}
    (hf : s.get (String.ofList ks) = some (.leaf fs m)) :
    entryValue W s (.str ks) value =
      (if (envValue W m).isSome then .skip else validatedEntry W fs (String.ofList ks) (toPython W.fe fs value)) := by
  simp only [entryValue, keyString_str, hf, leafOf, leafEntry]

theorem entryValue_nonstr (W : World) (s : Schema) (key value : Val) (h : ∀ ks, key ≠ .str ks) :
    entryValue W s key value = .stop := by
  simp only [entryValue, keyString_nonstr key h]

theorem entryValue_effect (W : World) (s : Schema) (key value : Val) :
    (entryValue W s key value).effect = entryEffect W s key value := by
  rcases Val.str_or_not key with ⟨ks, rfl⟩ | hne
  · simp only [entryValue, keyString, entryEffect]
    cases leafOf (s.get (String.ofList ks)) with
    | none => rfl
    | some p =>
      simp only [leafEntry]
      cases (envValue W p.2).isSome with
      | true => rfl
      | false =>
        cases toPython W.fe p.1 value with
        | error e => rfl
        | ok u => simp only [validatedEntry]; cases validate W.fe.toEnv p.1 u <;> rfl
  · rw [entryValue_nonstr W s key value hne, entryEffect_nonstr W s key value hne]
    rfl

theorem loadValues_keys (W : World) (s : Schema) (tree : List (Val × Val)) :
    (loadValues W s tree).map (·.1) = loadAssigned W s tree := by
  induction tree with
  | nil => rfl
  | cons e rest ih =>
    simp only [loadValues, loadAssigned, ← entryValue_effect]
    cases entryValue W s e.1 e.2 with
    | skip => exact ih
    | stop => rfl
    | assign k v => exact congrArg (k :: ·) ih

theorem entryValue_assign {W : World} {s : Schema} {key value : Val} {k : String} {v : Val}
    (h : entryValue W s key value = .assign k v) : ∃ ks fs m u, key = .str ks ∧ k = String.ofList ks ∧
      s.get k = some (.leaf fs m) ∧ envValue W m = none ∧ toPython W.fe fs value = .ok u ∧ validate W.fe.toEnv fs u = .ok v := by
  rcases Val.str_or_not key with ⟨ks, rfl⟩ | hne
  · simp only [entryValue, keyString] at h
    cases hl : leafOf (s.get (String.ofList ks)) with
    | none => rw [hl] at h; cases h
    | some p =>
      rw [hl, leafEntry] at h
      cases henv : envValue W p.2 with
      | some x => rw [henv] at h; cases h
      | none =>
        cases hp : toPython W.fe p.1 value with
        | error e => rw [henv, hp] at h; cases h
        | ok u =>
          rw [henv, hp, validatedEntry] at h
          cases hv : validate W.fe.toEnv p.1 u with
          | error e => rw [hv] at h; cases h
          | ok v1 =>
            rw [hv] at h
            cases h
            exact ⟨ks, p.1, p.2, u, rfl, rfl, leafOf_some hl, henv, hp, hv⟩
  · rw [entryValue_nonstr W s key value hne] at h
    cases h

/-- `_set_value` of a list of plain values, first to last -/
def assignAll (c : Cfg) : List (String × Val) → Cfg
  | [] => c
  | (k, v) :: rest => assignAll (c.setUser k (.val v)) rest

theorem get_assignAll (l : List (String × Val)) (c : Cfg) : (assignAll c l).get = Slots.putAll c.get l := by
  induction l generalizing c with
  | nil => rfl
  | cons p rest ih => rw [assignAll, ih, get_setUser_eq_put]; rfl

/-- **One entry of `load_tree` over declared leaf keys**, read off `entryValue`: skipped, assigned with `setUser`, or raised
    with nothing written.  The one case analysis of an entry on the side of the model. -/
theorem loadTree_entry (W : World) (fuel : Nat) (s : Schema) (path : String) (c : Cfg) (key value : Val)
    (rest : List (Val × Val)) (dv : Bool) (n : Nat) (hk : ∀ ks, key = .str ks → isLeafKey s (String.ofList ks) = true) :
    match entryValue W s key value with
    | .skip => loadTree W (fuel + 1) s path c ((key, value) :: rest) dv n = loadTree W (fuel + 1) s path c rest dv n
    | .assign k v => loadTree W (fuel + 1) s path c ((key, value) :: rest) dv n =
        loadTree W (fuel + 1) s path (c.setUser k (.val v)) rest dv n
    | .stop => ∃ e, loadTree W (fuel + 1) s path c ((key, value) :: rest) dv n = { cfg := c, err := some e, next := n } := by
  rcases Val.str_or_not key with ⟨ks, rfl⟩ | hne
  · obtain ⟨fs, m, hf⟩ := isLeafKey_get (hk ks rfl)
    rw [entryValue_leaf W s ks value hf, loadTree_cons_leaf W fuel s path c ks value rest dv n hf]
    cases (envValue W m).isSome with
    | true => rfl
    | false =>
      cases toPython W.fe fs value with
      | error e => exact ⟨_, rfl⟩
      | ok u =>
        simp only [validatedEntry, Bool.false_eq_true, if_false]
        cases validate W.fe.toEnv fs u with
        | error e => exact ⟨_, rfl⟩
        | ok v => rfl
  · rw [entryValue_nonstr W s key value hne, loadTree_cons_nonstr W (fuel + 1) s path c key value rest dv n hne]
    exact ⟨_, rfl⟩

/-- **`load_tree` over declared leaf keys, in closed form**: the configuration at return or raise is the one before with the
    writes of `loadValues` done by `setUser`, the identity counter is untouched, and the load raises exactly when an entry
    stops it or the final validation does. -/
theorem loadTree_leaves (W : World) (fuel : Nat) (s : Schema) (dv : Bool) (tree : List (Val × Val)) (c : Cfg) (n : Nat)
    (hok : OpOk s (.load tree dv)) :
    (loadTree W (fuel + 1) s "" c tree dv n).cfg = assignAll c (loadValues W s tree) ∧
    (loadTree W (fuel + 1) s "" c tree dv n).next = n ∧
    (loadStops W s tree = true → (loadTree W (fuel + 1) s "" c tree dv n).err.isSome = true) ∧
    (loadStops W s tree = false → (loadTree W (fuel + 1) s "" c tree dv n).err =
      if dv then validateCfg W (fuel + 2) s "" (assignAll c (loadValues W s tree)) else none) := by
  induction tree generalizing c with
  | nil =>
    unfold loadTree
    cases dv <;> simp [loadValues, assignAll, loadStops]
  | cons e rest ih =>
    obtain ⟨key, value⟩ := e
    have hrest : OpOk s (.load rest dv) := fun ks v hm => hok ks v (List.mem_cons_of_mem _ hm)
    have hent := loadTree_entry W fuel s "" c key value rest dv n fun ks e => hok ks value (e ▸ List.mem_cons_self ..)
    have heff := entryValue_effect W s key value
    simp only [loadValues, loadStops, ← heff]
    cases hv : entryValue W s key value with
    | skip | assign k v => simp only [hv] at hent; rw [hent]; exact ih _ hrest
    | stop =>
      simp only [hv] at hent
      obtain ⟨e, he⟩ := hent
      rw [he]
      exact ⟨rfl, rfl, fun _ => rfl, fun h => by cases h⟩

/-- **The slots after `load_tree`** (returning or raising midway) over declared leaf keys are the slots before with the
    writes of `loadValues` applied in order — for *every* key — and the identity counter is returned as it was. -/
theorem loadTree_values (W : World) (fuel : Nat) (s : Schema) (dv : Bool) :
    ∀ (tree : List (Val × Val)) (c : Cfg) (n : Nat), OpOk s (.load tree dv) →
      (loadTree W (fuel + 1) s "" c tree dv n).cfg.get = Slots.putAll c.get (loadValues W s tree) ∧
      (loadTree W (fuel + 1) s "" c tree dv n).next = n := by
  intro tree c n hok
  obtain ⟨hc, hn, _⟩ := loadTree_leaves W fuel s dv tree c n hok
  exact ⟨by rw [hc, get_assignAll], hn⟩

theorem mem_loadValues {W : World} {s : Schema} {tree : List (Val × Val)} {k : String} {v : Val}
    (h : (k, v) ∈ loadValues W s tree) : ∃ ks value fs m u, (Val.str ks, value) ∈ tree ∧ k = String.ofList ks ∧
      s.get k = some (.leaf fs m) ∧ envValue W m = none ∧ toPython W.fe fs value = .ok u ∧ validate W.fe.toEnv fs u = .ok v := by
  induction tree with
  | nil => simp [loadValues] at h
  | cons e rest ih =>
    obtain ⟨key, value⟩ := e
    simp only [loadValues] at h
    cases he : entryValue W s key value with
    | skip =>
      rw [he] at h
      obtain ⟨ks, v1, fs, m, u, hm, r⟩ := ih h
      exact ⟨ks, v1, fs, m, u, List.mem_cons_of_mem _ hm, r⟩
    | stop => simp [he] at h
    | assign k0 v0 =>
      simp only [he, List.mem_cons, Prod.mk.injEq] at h
      rcases h with ⟨rfl, rfl⟩ | h
      · obtain ⟨ks, fs, m, u, rfl, r⟩ := entryValue_assign he
        exact ⟨ks, value, fs, m, u, List.mem_cons_self .., r⟩
      · obtain ⟨ks, v1, fs, m, u, hm, r⟩ := ih h
        exact ⟨ks, v1, fs, m, u, List.mem_cons_of_mem _ hm, r⟩

/-- `hin`: the load writes the key at all (a load that returns does: `C12b.load_ok_mem`); `huniq`: the tree has no second
    entry with another value under it, so the last write — the one that counts — stores this entry's value -/
theorem putAll_loadValues_unique {W : World} {s : Schema} {tree : List (Val × Val)} {ks : List Char} {value : Val}
    {fs : FieldSpec} {m : LeafMeta} (hf : s.get (String.ofList ks) = some (.leaf fs m))
    (huniq : ∀ value', (Val.str ks, value') ∈ tree → value' = value)
    (hin : String.ofList ks ∈ (loadValues W s tree).map (·.1)) (A : Slots) :
    ∃ u v, toPython W.fe fs value = .ok u ∧ validate W.fe.toEnv fs u = .ok v ∧
      A.putAll (loadValues W s tree) (String.ofList ks) = some (.val v) := by
  obtain ⟨v, hmem, hput⟩ := Slots.putAll_mem (loadValues W s tree) A _ hin
  obtain ⟨ks2, value2, fs2, m2, u, hm2, hk2, hf2, _, hp, hv⟩ := mem_loadValues hmem
  cases String.ofList_inj.1 hk2
  rw [hf] at hf2
  cases hf2
  cases huniq value2 hm2
  exact ⟨u, v, hp, hv, hput⟩

theorem not_mem_loadAssigned_of_env {W : World} {s : Schema} {k : String} {fs : FieldSpec} {m : LeafMeta}
    (hf : s.get k = some (.leaf fs m)) (henv : (envValue W m).isSome = true) (tree : List (Val × Val)) :
    k ∉ loadAssigned W s tree := by
  intro hin
  rw [← loadValues_keys] at hin
  obtain ⟨⟨k0, v⟩, hp, rfl⟩ := List.mem_map.1 hin
  obtain ⟨_, _, fs', m', _, _, _, hf', henv', _⟩ := mem_loadValues hp
  rw [hf] at hf'
  cases hf'
  rw [henv'] at henv
  cases henv

end Cinco.Config.ValueSpec
