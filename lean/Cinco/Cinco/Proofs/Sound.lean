import Cinco.Proofs.FieldLemmas
import Cinco.Proofs.StrIdem
import Cinco.Proofs.NetRoundtrip
/-
  Soundness of validation with respect to the constraints a field DECLARES.

  `Sat E f v` is written from the declaration `f` (kind, options, `required`), not by calling the validator's rule
  functions; `validate_sound` says that whatever `validate E f _` returns satisfies it, at every nesting depth.
  The environment `E` appears in `Sat` only for the two constraints that are *about* the environment: a URL field's
  "parses as a URL with a scheme" (`E.urlOk`) and a filename field's existence constraint (`E.fsKind`) /
  resolution against the start directory (`E.resolve`, `E.isabs`).
-/
namespace Cinco.Field
open Cinco Cinco.Num Cinco.Str

/-- what a `FilenameField` with a start directory needs from `os.path`, for what it holds to satisfy its declaration (and
    so to be accepted again): a resolved path is absolute, the empty path is not -/
structure EnvOk (E : Env) : Prop where
  resolve_abs : ∀ sd t, E.isabs (E.resolve sd t) = true
  empty_not_abs : E.isabs [] = false

/-- not below the declared minimum: Python's `value < min` is false.  The order is the project's exact order on the numeric
    tower (`Num.lt`): an int value is compared with a float bound exactly (no rounding of the int), a NaN bound (or a NaN
    value) compares false with everything and so constrains nothing. -/
def NotBelow (x : Ext) : Option Num → Prop
  | none => True
  | some m => lt x m.ext = false

/-- not above the declared maximum: Python's `value > max` is false -/
def NotAbove (x : Ext) : Option Num → Prop
  | none => True
  | some m => lt m.ext x = false

def CaseNormal : Option Case → Str → Prop
  | none, _ => True
  | some .lower, s => lower s = s
  | some .upper, s => upper s = s

def StripNormal : Strip → Str → Prop
  | .off, _ => True
  | .ws, s => strip s = s
  | .chars cs, s => stripChars cs s = s

/-- what the options of a `StringField` (and `required`) declare about a text -/
structure StrSat (o : StrOpts) (req : Bool) (s : Str) : Prop where
  nonempty : req = true → s ≠ []
  minLen : ∀ m, o.minLen = some m → m ≤ (s.length : Int)
  maxLen : ∀ m, o.maxLen = some m → (s.length : Int) ≤ m
  regex : ∀ r, o.regex = some r → Regex.isMatch r s = true
  choices : o.choices ≠ [] → s ∈ o.choices
  caseNormal : CaseNormal o.case s
  stripNormal : StripNormal o.strip s

def PrefixSat (minP maxP : Option Int) (p : Nat) : Prop :=
  (∀ m, minP = some m → m ≤ (p : Int)) ∧ (∀ m, maxP = some m → (p : Int) ≤ m)

/-- the declared existence constraint of a `FilenameField`, about the path that is held -/
def ExistsSat (E : Env) : Exists → Str → Prop
  | .any, _ => True
  | .yes, p => E.fsKind p ≠ .absent
  | .no, p => E.fsKind p = .absent
  | .dir, p => E.fsKind p = .dir
  | .file, p => E.fsKind p = .file

mutual
  /-- **`v` satisfies what the field declares.**  With a custom validator nothing can be said (the catalogue function may
      return any value at all), so `Sat` is `True` there — at that level only: a list whose *item* field has a custom
      validator is still a non-empty-when-required list.  Otherwise: `None` exactly when the field is not required, or a
      value other than `None` satisfying the constraints of the kind. -/
  def Sat (E : Env) : FieldSpec → Val → Prop
    | .mk _ _ (some _), _ => True
    | .mk k r none, v => (v = .none ∧ r = false) ∨ (v ≠ .none ∧ SatKind E k r v)
  /-- an optional key / value field (absent = `AnyField()`: no constraint) -/
  def SatOpt (E : Env) : Option FieldSpec → Val → Prop
    | none, _ => True
    | some f, v => Sat E f v
  def SatKind (E : Env) : Kind → Bool → Val → Prop
    | .any, _, _ => True
    | .string o, req, v => ∃ s, v = .str s ∧ StrSat o req s
    | .int mn mx, _, v => ∃ i, v = .int i ∧ NotBelow (ofInt i) mn ∧ NotAbove (ofInt i) mx
    -- NaN satisfies every pair of bounds (`sat_float_nan`): that is what the code does (`nan < min` is false)
    | .float mn mx, _, v => ∃ x, v = .flt x ∧ NotBelow (ofFlt x) mn ∧ NotAbove (ofFlt x) mx
    | .bool, _, v => ∃ b, v = .bool b
    | .bytes _, _, v => ∃ b, v = .bytes b
    -- the held text is the canonical text of an address AND satisfies the string options (canonical = accepted text)
    | .ipv4addr o, req, v => ∃ s, v = .str s ∧ StrSat o req s ∧
        ∃ n, n < 4294967296 ∧ Net.parseAddr s = some n ∧ s = Net.printAddr n
    -- the held text is the canonical text `addr/len` of a network whose prefix length is within the declared bounds.
    -- The string options were applied to the INPUT text `t` (some text denoting the same network), not to the canonical
    -- text that is held (finding F22): they are NOT claimed of `s` (see `SoundExamples.ipv4net_options_not_of_result`, Props/C05b.lean).
    | .ipv4net o minP maxP, req, v => ∃ s n p, v = .str s ∧ s = Net.printNet n p ∧ Net.parseNet s = some (n, p) ∧
        PrefixSat minP maxP p ∧ ∃ t, StrSat o req t ∧ Net.parseNet t = some (n, p)
    | .hostname o a, req, v => ∃ s, v = .str s ∧ StrSat o req s ∧
        ((a = true ∧ ∃ n, Net.parseAddr s = some n) ∨
         (Net.parseAddr s = none ∧
          (Regex.isMatch Generated.hostnameRe s = true ∨ Regex.isMatch Generated.netbiosRe s = true)))
    -- the held path is empty (only when not required) or meets the existence constraint; under a non-empty start
    -- directory it is empty or absolute (a relative text is never held there: it is resolved); it is a text `t` satisfying
    -- the string options, or the resolution of such a (relative) text against the non-empty start directory — the options
    -- are NOT claimed of a resolved path (finding F25, see `SoundExamples.filename_options_not_of_result`, Props/C05b.lean)
    | .filename o ex sd, req, v => ∃ s, v = .str s ∧ (req = true → s ≠ []) ∧ (s = [] ∨ ExistsSat E ex s) ∧
        (∀ d, sd = some d → d ≠ [] → s = [] ∨ E.isabs s = true) ∧
        ∃ t, StrSat o req t ∧ (s = t ∨ ∃ d, sd = some d ∧ d ≠ [] ∧ t ≠ [] ∧ E.isabs t = false ∧ s = E.resolve d t)
    | .url o, req, v => ∃ s, v = .str s ∧ StrSat o req s ∧ E.urlOk s = true
    -- the algorithm of a held digest need not be the field's (finding F23): only the shape
    | .challenge _, _, v => ∃ s d a, v = .digest s d a
    | .secure _, req, v => ∃ s, v = .str s ∧ (req = true → s ≠ [])
    -- an untyped list or a list of `AnyField` is held as it was given (a tuple stays a tuple, items are not looked at);
    -- a typed list is a list whose every item satisfies the item field
    | .list item, req, v =>
        if untypedItem item = true then ∃ xs, (v = .list xs ∨ v = .tuple xs) ∧ (req = true → xs ≠ [])
        else ∃ xs, v = .list xs ∧ (req = true → xs ≠ []) ∧ ∀ x ∈ xs, SatOpt E item x
    -- a typed dict has pairwise distinct keys, every key / value satisfies its field
    | .dict kf vf, req, v => ∃ kvs, v = .dict kvs ∧ (req = true → kvs ≠ []) ∧
        (∀ kv ∈ kvs, SatOpt E kf kv.1 ∧ SatOpt E vf kv.2) ∧ ((kf.isNone && vf.isNone) = false → (keysD kvs).Nodup)
end

theorem lt_ofInt_ofInt (a b : Int) : lt (ofInt a) (ofInt b) = decide (a < b) := by
  simp [lt, ofInt, finLt]

theorem notBelow_int_int (i m : Int) : NotBelow (ofInt i) (some (.int m)) ↔ m ≤ i := by
  simp [NotBelow, Num.ext, lt_ofInt_ofInt]

theorem notAbove_int_int (i m : Int) : NotAbove (ofInt i) (some (.int m)) ↔ i ≤ m := by
  simp [NotAbove, Num.ext, lt_ofInt_ofInt]

/-- an int value against a finite float bound `m·2^e`: compared exactly, after scaling to the common exponent -/
theorem notBelow_int_flt (i m e : Int) :
    NotBelow (ofInt i) (some (.flt (.dy m e))) ↔ m * 2 ^ (e - min 0 e).toNat ≤ i * 2 ^ (0 - min 0 e).toNat := by
  simp [NotBelow, Num.ext, ofFlt, ofInt, lt, finLt]

theorem notAbove_int_flt (i m e : Int) :
    NotAbove (ofInt i) (some (.flt (.dy m e))) ↔ i * 2 ^ (0 - min e 0).toNat ≤ m * 2 ^ (e - min e 0).toNat := by
  simp [NotAbove, Num.ext, ofFlt, ofInt, lt, finLt]

theorem sat_float_nan (E : Env) (mn mx : Option Num) (r : Bool) : Sat E (.mk (.float mn mx) r none) (.flt .nan) := by
  refine Or.inr ⟨by simp, .nan, rfl, ?_, ?_⟩
  · cases mn <;> simp [NotBelow, ofFlt, lt]
  · cases mx with
    | none => trivial
    | some m => cases h : m.ext <;> simp [NotAbove, ofFlt, lt, h]

theorem sat_none_iff (E : Env) (k : Kind) (r : Bool) : Sat E (.mk k r none) .none ↔ r = false := by
  simp [Sat]

theorem sat_iff_of_ne_none {E : Env} {k : Kind} {r : Bool} {v : Val} (hv : v ≠ .none) :
    Sat E (.mk k r none) v ↔ SatKind E k r v := by
  simp [Sat, hv]

theorem sat_str_iff {E : Env} {o : StrOpts} {r : Bool} {s : Str} : Sat E (.mk (.string o) r none) (.str s) ↔ StrSat o r s :=
  (sat_iff_of_ne_none (k := .string o) (v := .str s) nofun).trans
    ⟨fun ⟨_, hs, hsat⟩ => Val.str.inj hs ▸ hsat, fun h => ⟨s, rfl, h⟩⟩

theorem transform_caseNormal (o : StrOpts) (s : Str) : CaseNormal o.case (transform o s) := by
  obtain ⟨minLen, maxLen, regex, choices, case, strp⟩ := o
  cases case with
  | none => trivial
  | some c =>
    cases c with
    | lower =>
      cases strp with
      | off => exact lower_idem s
      | ws => exact lower_idem (strip s)
      | chars cs => exact lower_stripChars_lower cs (stripChars cs s)
    | upper =>
      cases strp with
      | off => exact upper_idem s
      | ws => exact upper_idem (strip s)
      | chars cs => exact upper_stripChars_upper cs (stripChars cs s)

theorem transform_stripNormal (o : StrOpts) (s : Str) : StripNormal o.strip (transform o s) := by
  obtain ⟨minLen, maxLen, regex, choices, case, strp⟩ := o
  cases strp with
  | off => trivial
  | ws =>
    cases case with
    | none => exact strip_idem s
    | some c =>
      cases c with
      | lower => exact (strip_lower _).trans (congrArg lower (strip_idem s))
      | upper => exact (strip_upper _).trans (congrArg upper (strip_idem s))
  | chars cs =>
    cases case with
    | none => exact stripChars_idem cs s
    | some c => exact stripChars_idem cs _

theorem transform_eq_self_iff {o : StrOpts} {t : Str} : transform o t = t ↔ CaseNormal o.case t ∧ StripNormal o.strip t := by
  refine ⟨fun h => h ▸ ⟨transform_caseNormal o t, transform_stripNormal o t⟩, fun ⟨hc, hs⟩ => ?_⟩
  -- every stage of `transform` is the identity on a normal text; three stages only for a character strip with a case
  -- transform (strip, case, strip again), one or two otherwise
  obtain ⟨mn, mx, re, ch, cs, st⟩ := o
  rcases cs with _ | _ | _ <;> cases st <;> simp_all [transform, applyStrip, applyCase, CaseNormal, StripNormal]

theorem transform_idem (o : StrOpts) (s : Str) : transform o (transform o s) = transform o s :=
  transform_eq_self_iff.2 ⟨transform_caseNormal o s, transform_stripNormal o s⟩

theorem strChecks_iff {o : StrOpts} {req : Bool} {t : Str} : strChecks o req t = true ↔
    (req = true → t ≠ []) ∧ (∀ m, o.minLen = some m → m ≤ (t.length : Int)) ∧ (∀ m, o.maxLen = some m → (t.length : Int) ≤ m) ∧
    (∀ r, o.regex = some r → Regex.isMatch r t = true) ∧ (o.choices ≠ [] → t ∈ o.choices) := by
  simp only [strChecks, Bool.and_eq_true, and_assoc]
  refine and_congr ?_ (and_congr ?_ (and_congr ?_ (and_congr ?_ ?_)))
  · cases req <;> simp
  · cases o.minLen <;> simp
  · cases o.maxLen <;> simp
  · cases o.regex <;> simp
  · cases o.choices <;> simp

theorem strSat_iff_checks {o : StrOpts} {req : Bool} {t : Str} : StrSat o req t ↔ transform o t = t ∧ strChecks o req t = true := by
  rw [transform_eq_self_iff, strChecks_iff]
  exact ⟨fun ⟨h1, h2, h3, h4, h5, h6, h7⟩ => ⟨⟨h6, h7⟩, h1, h2, h3, h4, h5⟩,
    fun ⟨⟨h6, h7⟩, h1, h2, h3, h4, h5⟩ => ⟨h1, h2, h3, h4, h5, h6, h7⟩⟩

theorem strRule_eq_ok {o : StrOpts} {req : Bool} {v : Val} {t : Str} :
    strRule o req v = .ok t ↔ ∃ s, v = .str s ∧ transform o s = t ∧ strChecks o req t = true := by
  unfold strRule
  split
  next s =>
    simp only [Val.str.injEq, exists_eq_left']
    split
    next hc => exact ⟨fun h => by cases h; exact ⟨rfl, hc⟩, fun ⟨h, _⟩ => by rw [h]⟩
    next hc => exact ⟨nofun, fun ⟨h, hc'⟩ => absurd (h ▸ hc') hc⟩
  next hv => exact ⟨nofun, fun ⟨s, hs, _⟩ => (hv s hs).elim⟩

theorem strRule_self_iff {o : StrOpts} {req : Bool} {t : Str} : strRule o req (.str t) = .ok t ↔ StrSat o req t := by
  simp [strRule_eq_ok, strSat_iff_checks]

theorem strRule_idem (o : StrOpts) (req : Bool) (v : Val) (t : Str) (h : strRule o req v = .ok t) :
    strRule o req (.str t) = .ok t := by
  obtain ⟨s, rfl, rfl, hc⟩ := strRule_eq_ok.1 h
  exact strRule_eq_ok.2 ⟨_, rfl, transform_idem o s, hc⟩

theorem strRule_sat {o : StrOpts} {req : Bool} {v0 : Val} {t : Str} (h : strRule o req v0 = .ok t) : StrSat o req t :=
  strRule_self_iff.1 (strRule_idem o req v0 t h)

theorem checkBounds_iff (mn mx : Option Num) (n : Ext) : checkBounds mn mx n = true ↔ NotBelow n mn ∧ NotAbove n mx := by
  cases mn <;> cases mx <;> simp [checkBounds, NotBelow, NotAbove]

/-- the last step of both number rules -/
theorem checkBounds_ok {mn mx : Option Num} {n : Ext} {x v : Val}
    (h : (if checkBounds mn mx n = true then (.ok x : R Val) else .error .value) = .ok v) :
    v = x ∧ NotBelow n mn ∧ NotAbove n mx := by
  split at h
  · next hb => cases h; exact ⟨rfl, (checkBounds_iff _ _ _).1 hb⟩
  · cases h

theorem intRule_sat {E : Env} {mn mx : Option Num} {req : Bool} {v0 v : Val} (h : intRule mn mx v0 = .ok v) :
    SatKind E (.int mn mx) req v := by
  cases v0 with
  | int i => obtain ⟨rfl, hb⟩ := checkBounds_ok h; exact ⟨i, rfl, hb⟩
  | flt f =>
    simp only [intRule] at h
    split at h
    · obtain ⟨rfl, hb⟩ := checkBounds_ok h; exact ⟨_, rfl, hb⟩
    · cases h
    · cases h
  | str s =>
    simp only [intRule] at h
    split at h
    · obtain ⟨rfl, hb⟩ := checkBounds_ok h; exact ⟨_, rfl, hb⟩
    · cases h
  | _ => cases h

theorem floatRule_sat {E : Env} {mn mx : Option Num} {req : Bool} {v0 v : Val} (h : floatRule E mn mx v0 = .ok v) :
    SatKind E (.float mn mx) req v := by
  cases v0 with
  | int i =>
    simp only [floatRule] at h
    split at h
    · cases h
    · obtain ⟨rfl, hb⟩ := checkBounds_ok h; exact ⟨_, rfl, hb⟩
  | flt f => obtain ⟨rfl, hb⟩ := checkBounds_ok h; exact ⟨f, rfl, hb⟩
  | str s =>
    simp only [floatRule] at h
    split at h
    · obtain ⟨rfl, hb⟩ := checkBounds_ok h; exact ⟨_, rfl, hb⟩
    · cases h
  | _ => cases h

theorem secureRule_sat {E : Env} {m : String} {req : Bool} {v0 v : Val} (h : secureRule req v0 = .ok v) :
    SatKind E (.secure m) req v := by
  cases v0 with
  | str s =>
    simp only [secureRule] at h
    split at h
    · cases h
    · next hc => cases h; exact ⟨s, rfl, by rintro rfl rfl; exact hc rfl⟩
  | _ => cases h

theorem prefixBad_false_iff (minP maxP : Option Int) (p : Nat) : prefixBad minP maxP p = false ↔ PrefixSat minP maxP p := by
  simp only [prefixBad, PrefixSat, Bool.or_eq_false_iff]
  refine and_congr ?_ ?_
  · cases minP <;> simp
  · cases maxP <;> simp

theorem addrRule_sat {E : Env} {o : StrOpts} {req : Bool} {v0 v : Val} (h : addrRule o req v0 = .ok v) :
    SatKind E (.ipv4addr o) req v := by
  obtain ⟨t, ht, h2⟩ := bind_ok h
  split at h2
  next n hp =>
    cases h2
    obtain ⟨he, hlt⟩ := Net.printAddr_of_parseAddr t n hp
    rw [he]
    exact ⟨t, rfl, strRule_sat ht, n, hlt, hp, he.symm⟩
  · cases h2

theorem netRule_sat {E : Env} {o : StrOpts} {req : Bool} {minP maxP : Option Int} {v0 v : Val}
    (h : netRule o req minP maxP v0 = .ok v) : SatKind E (.ipv4net o minP maxP) req v := by
  obtain ⟨t, ht, h2⟩ := bind_ok h
  split at h2
  next n p hp =>
    split at h2
    · cases h2
    next hb =>
      cases h2
      exact ⟨_, n, p, rfl, rfl, Net.parseNet_canonical t n p hp, (prefixBad_false_iff _ _ _).1 (Bool.eq_false_iff.2 hb), t,
        strRule_sat ht, hp⟩
  · cases h2

theorem hostRule_sat {E : Env} {o : StrOpts} {req a : Bool} {v0 v : Val} (h : hostRule o req a v0 = .ok v) :
    SatKind E (.hostname o a) req v := by
  obtain ⟨t, ht, h2⟩ := bind_ok h
  split at h2
  next n hp =>
    split at h2
    next ha =>
      cases h2
      rw [(Net.printAddr_of_parseAddr t n hp).1]
      exact ⟨t, rfl, strRule_sat ht, Or.inl ⟨ha, n, hp⟩⟩
    · cases h2
  next hp =>
    split at h2
    next hm =>
      cases h2
      exact ⟨t, rfl, strRule_sat ht, Or.inr ⟨hp, by simpa using hm⟩⟩
    · cases h2

theorem urlRule_sat {E : Env} {o : StrOpts} {req : Bool} {v0 v : Val} (h : urlRule E o req v0 = .ok v) :
    SatKind E (.url o) req v := by
  obtain ⟨t, ht, h2⟩ := bind_ok h
  split at h2
  · next hu => cases h2; exact ⟨t, rfl, strRule_sat ht, hu⟩
  · cases h2

theorem fileBad_false_iff (E : Env) (ex : Exists) (p : Str) : fileBad E ex p = false ↔ ExistsSat E ex p := by
  cases ex <;> simp [fileBad, ExistsSat]

theorem filePath_of_abs {E : Env} {sd : Option Str} {t : Str} (h : E.isabs t = true) : filePath E sd t = t := by
  cases sd <;> simp [filePath, h]

theorem filePath_of_no_startdir {E : Env} {sd : Option Str} {t : Str} (h : ∀ d, sd = some d → d = []) :
    filePath E sd t = t := by
  cases sd with
  | none => rfl
  | some d => simp [filePath, h d rfl]

theorem filePath_cases (E : Env) (sd : Option Str) (t : Str) :
    (filePath E sd t = t ∧ ∀ d, sd = some d → d ≠ [] → E.isabs t = true) ∨
      ∃ d, sd = some d ∧ d ≠ [] ∧ E.isabs t = false ∧ filePath E sd t = E.resolve d t := by
  cases hab : E.isabs t with
  | true => exact Or.inl ⟨filePath_of_abs hab, fun _ _ _ => rfl⟩
  | false =>
    cases sd with
    | none => exact Or.inl ⟨rfl, fun _ h => nomatch h⟩
    | some d =>
      cases d with
      | nil => exact Or.inl ⟨filePath_of_no_startdir (fun _ h => by cases h; rfl), fun _ h hne => by cases h; exact absurd rfl hne⟩
      | cons c cs => exact Or.inr ⟨_, rfl, by simp, rfl, by simp [filePath, hab]⟩

theorem EnvOk.resolve_ne_nil {E : Env} (hE : EnvOk E) (d t : Str) : E.resolve d t ≠ [] := fun e => by
  have := hE.resolve_abs d t
  rw [e, hE.empty_not_abs] at this
  cases this

theorem fileRule_sat {E : Env} (hE : EnvOk E) {o : StrOpts} {req : Bool} {ex : Exists} {sd : Option Str} {v0 v : Val}
    (h : fileRule E o req ex sd v0 = .ok v) : SatKind E (.filename o ex sd) req v := by
  obtain ⟨t, ht, h2⟩ := bind_ok h
  have hsat := strRule_sat ht
  cases t with
  | nil =>
    cases h2
    exact ⟨[], rfl, hsat.nonempty, Or.inl rfl, fun _ _ _ => Or.inl rfl, [], hsat, Or.inl rfl⟩
  | cons c cs =>
    simp only [List.isEmpty_cons, Bool.false_eq_true, if_false] at h2
    split at h2
    · cases h2
    · next hb =>
      cases h2
      have hex := (fileBad_false_iff E ex _).1 (by simpa using hb)
      rcases filePath_cases E sd (c :: cs) with ⟨hp, habs⟩ | ⟨d, hsd, hdne, hab, hp⟩
      · rw [hp] at hex ⊢
        exact ⟨_, rfl, fun _ => by simp, Or.inr hex, fun d hd hne => Or.inr (habs d hd hne), _, hsat, Or.inl rfl⟩
      · rw [hp] at hex ⊢
        exact ⟨_, rfl, fun _ => hE.resolve_ne_nil d _, Or.inr hex, fun _ _ _ => Or.inr (hE.resolve_abs d _), _, hsat,
          Or.inr ⟨d, hsd, hdne, by simp, hab, rfl⟩⟩

theorem satKind_none {E : Env} {k : Kind} {req : Bool} (h : SatKind E k req .none) : k = .any := by
  cases k <;> simp only [SatKind, reduceCtorEq, false_and, exists_false, or_self, ite_self] at h
  rfl

theorem validateKind_sound_step (E : Env) (hE : EnvOk E) (k : Kind) (req : Bool) (v0 v : Val)
    (ih : ∀ o : Option FieldSpec, o.toList ⊆ k.subs → ∀ v0 v, validateOpt E o v0 = .ok v → SatOpt E o v)
    (h : validateKind E k req v0 = .ok v) : SatKind E k req v := by
  cases k with
  | any => trivial
  | string o =>
    obtain ⟨t, ht, rfl⟩ := Except.map_eq_ok.1 h
    exact ⟨t, rfl, strRule_sat ht⟩
  | int mn mx => exact intRule_sat h
  | float mn mx => exact floatRule_sat h
  | bool => exact boolRule_shape h
  | bytes _ => exact bytesRule_shape h
  | ipv4addr o => exact addrRule_sat h
  | ipv4net o mn mx => exact netRule_sat h
  | hostname o a => exact hostRule_sat h
  | filename o ex sd => exact fileRule_sat hE h
  | url o => exact urlRule_sat h
  | challenge alg => exact challengeRule_shape h
  | secure _ => exact secureRule_sat h
  | list item =>
    obtain ⟨ys, hne, hw⟩ := validateKind_list_result (ih item (List.Subset.refl _)) h
    split at hw
    next hu => exact (if_pos hu).mpr ⟨ys, hw, hne⟩
    next hu => exact (if_neg hu).mpr ⟨ys, hw.1, hne, hw.2⟩
  | dict kf vf =>
    exact validateKind_dict_result (ih kf (List.subset_append_left _ _)) (ih vf (List.subset_append_right _ _)) h

/-- **Validation is sound for the declared constraints**: whatever the input (of whatever type), whatever `validate`
    returns satisfies everything the field declares — at every nesting depth of typed lists and dicts.
    `EnvOk` (a resolved path is absolute, the empty path is not) is used for the filename field with a start directory
    only: a text that was resolved against the start directory is held as an absolute — hence non-empty — path. -/
theorem validate_sound (E : Env) (hE : EnvOk E) : ∀ (f : FieldSpec) (v0 v : Val), validate E f v0 = .ok v → Sat E f v := by
  refine FieldSpec.inductOpt (Q := fun o => ∀ v0 v, validateOpt E o v0 = .ok v → SatOpt E o v)
    (fun _ _ _ => trivial) (fun _ h => h) fun k req c ih v0 v h => ?_
  cases c with
  | some c => trivial
  | none =>
    rcases validate_inv_nc h with ⟨_, hr, hw⟩ | ⟨hv0, hk⟩
    · exact Or.inl ⟨hw, hr⟩
    · have hs := validateKind_sound_step E hE k req v0 v ih hk
      refine Or.inr ⟨?_, hs⟩
      rintro rfl
      cases satKind_none hs
      exact hv0 (Except.ok.inj hk)

theorem validateOpt_sound (E : Env) (hE : EnvOk E) : ∀ (o : Option FieldSpec) (v0 v : Val),
    validateOpt E o v0 = .ok v → SatOpt E o v
  | none, _, _, _ => trivial
  | some f, v0, v, h => validate_sound E hE f v0 v h

theorem validateKind_sound (E : Env) (hE : EnvOk E) : ∀ (k : Kind) (req : Bool) (v0 v : Val),
    validateKind E k req v0 = .ok v → SatKind E k req v :=
  fun k req v0 v => validateKind_sound_step E hE k req v0 v fun o _ => validateOpt_sound E hE o

theorem held_sat (E : Env) (hE : EnvOk E) (f : FieldSpec) (v : Val)
    (h : (v = .none ∧ f.required = false) ∨ ∃ u, validate E f u = .ok v) : Sat E f v := by
  rcases h with ⟨hv, hr⟩ | ⟨u, hu⟩
  · obtain ⟨k, r, c⟩ := f
    cases c with
    | some _ => trivial
    | none => exact Or.inl ⟨hv, hr⟩
  · exact validate_sound E hE f u v hu

end Cinco.Field

