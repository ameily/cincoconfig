import Cinco.Config.Paths
import Cinco.Proofs.Cfg
/-
  The ways of naming a field agree: enumeration (`get_all_fields`) vs. lookup by components vs. dotted lookup on
  schema and configuration; the command-line override touches only what it is given.
-/
namespace Cinco.Config
open Cinco Cinco.Field

/-- `lookupPath` on the field list of a schema, with the path split into head and tail -/
def lookupL (fs : List (String × SField)) (k : String) (rest : List String) : Option SField :=
  match rest with
  | [] => lookupField k fs
  | _ :: _ =>
    match lookupField k fs with
    | some (.sub s') => lookupPath s' rest
    | _ => none

theorem lookupPath_cons (s : Schema) (k : String) (rest : List String) :
    lookupPath s (k :: rest) = lookupL s.fields k rest := by
  cases rest with
  | nil => simp [lookupPath, lookupL, Schema.get]
  | cons k2 r => rw [lookupPath.eq_3]; rfl

theorem allPaths_eq (pfx : List String) (s : Schema) : allPaths pfx s = allPathsList pfx s.fields := by
  cases s; rw [allPaths]; rfl

theorem mem_allPathsList {pfx : List String} {x : List String × SField} {fs : List (String × SField)} :
    x ∈ allPathsList pfx fs ↔
      ∃ k f, (k, f) ∈ fs ∧ (x = (pfx ++ [k], f) ∨ ∃ s', f = .sub s' ∧ x ∈ allPaths (pfx ++ [k]) s') := by
  induction fs with
  | nil =>
    constructor
    · intro h; rw [allPathsList] at h; cases h
    · rintro ⟨_, _, h, _⟩; cases h
  | cons kf tl ih =>
    obtain ⟨k0, f0⟩ := kf
    have hsplit : x ∈ allPathsList pfx ((k0, f0) :: tl) ↔
        (x = (pfx ++ [k0], f0) ∨ ∃ s', f0 = .sub s' ∧ x ∈ allPaths (pfx ++ [k0]) s') ∨ x ∈ allPathsList pfx tl := by
      cases f0 <;> simp [allPathsList, or_assoc]
    rw [hsplit, ih]
    constructor
    · rintro (h | ⟨k, f, hm, h⟩)
      · exact ⟨k0, f0, List.mem_cons_self, h⟩
      · exact ⟨k, f, List.mem_cons_of_mem _ hm, h⟩
    · rintro ⟨k, f, hm, h⟩
      rcases List.mem_cons.mp hm with he | hm
      · cases he; exact Or.inl h
      · exact Or.inr ⟨k, f, hm, h⟩

theorem allPaths_sound (pfx : List String) (s : Schema) (hnd : s.keysNodup = true) (p : List String) (f : SField)
    (hm : (p, f) ∈ allPaths pfx s) : ∃ k rest, p = pfx ++ k :: rest ∧ lookupPath s (k :: rest) = some f := by
  -- by induction on the size of the schema: a nested schema is an entry of the field list
  induction hn : sizeOf s using Nat.strongRecOn generalizing pfx s with
  | ind n ih =>
    rw [allPaths_eq] at hm
    obtain ⟨k, f0, hmem, h⟩ := mem_allPathsList.mp hm
    have hl : s.get k = some f0 := lookupField_of_mem (every_iff.mp hnd).1 hmem
    rcases h with e | ⟨s', rfl, hx⟩
    · cases e
      exact ⟨k, [], rfl, by rw [lookupPath.eq_2]; exact hl⟩
    · have hlt : sizeOf s' < n := by
        cases s with
        | mk fields d v =>
          have := List.sizeOf_lt_of_mem hmem
          simp only [Schema.fields, Prod.mk.sizeOf_spec, SField.sub.sizeOf_spec] at this
          simp only [Schema.mk.sizeOf_spec] at hn
          omega
      obtain ⟨k2, rest, hp, hl2⟩ := ih _ hlt (pfx ++ [k]) s' (keysNodup_subSchema hnd hl rfl) hx rfl
      exact ⟨k, k2 :: rest, by simp [hp], by rw [lookupPath.eq_3, hl]; exact hl2⟩

theorem allPathsList_sound (pfx : List String) : ∀ (fs : List (String × SField)), nodupKeys fs = true →
    everyFields nodupKeys fs = true → ∀ p f, (p, f) ∈ allPathsList pfx fs →
    ∃ k rest, p = pfx ++ k :: rest ∧ lookupL fs k rest = some f := by
  intro fs hnd hev p f hm
  obtain ⟨k, rest, hp, hl⟩ := allPaths_sound pfx (.mk fs false []) (every_iff.mpr ⟨hnd, hev⟩) p f (by rw [allPaths_eq]; exact hm)
  exact ⟨k, rest, hp, (lookupPath_cons _ k rest).symm.trans hl⟩

theorem enum_lookup_pfx (pfx : List String) (s : Schema) (hnd : s.keysNodup = true) :
    ∀ p f, (p, f) ∈ allPaths pfx s → ∃ ks, ks ≠ [] ∧ p = pfx ++ ks ∧ lookupPath s ks = some f := by
  intro p f hm
  obtain ⟨k, rest, hp, hl⟩ := allPaths_sound pfx s hnd p f hm
  exact ⟨k :: rest, by simp, hp, hl⟩

/-- **Enumeration ⊆ lookup**: every `(path, field)` that `get_all_fields` yields is what lookup by that path returns. -/
theorem enum_lookup (s : Schema) (hnd : s.keysNodup = true) :
    ∀ ks f, (ks, f) ∈ allPaths [] s → lookupPath s ks = some f := by
  intro ks f hm
  obtain ⟨k, rest, hp, hl⟩ := allPaths_sound [] s hnd ks f hm
  rw [hp]; exact hl

theorem lookup_enum_pfx (ks pfx : List String) (s : Schema) (f : SField) (h : lookupPath s ks = some f) :
    (pfx ++ ks, f) ∈ allPaths pfx s := by
  induction ks generalizing pfx s with
  | nil => simp [lookupPath] at h
  | cons k r ih =>
    rw [allPaths_eq]
    cases r with
    | nil =>
      exact mem_allPathsList.mpr ⟨k, f, lookupField_mem h, Or.inl rfl⟩
    | cons k2 r =>
      rw [lookupPath.eq_3] at h
      split at h
      · rename_i s' hg
        refine mem_allPathsList.mpr ⟨k, _, lookupField_mem hg, Or.inr ⟨s', rfl, ?_⟩⟩
        simpa using ih (pfx ++ [k]) s' h
      · cases h

/-- **Lookup ⊆ enumeration**: whatever lookup by components finds is listed by `get_all_fields` under that path. -/
theorem lookup_enum (s : Schema) : ∀ ks f, lookupPath s ks = some f → (ks, f) ∈ allPaths [] s := by
  intro ks f h
  simpa using lookup_enum_pfx ks [] s f h

theorem enum_iff_lookup (s : Schema) (hnd : s.keysNodup = true) (ks : List String) (f : SField) :
    (ks, f) ∈ allPaths [] s ↔ lookupPath s ks = some f :=
  ⟨enum_lookup s hnd ks f, lookup_enum s ks f⟩

/-- the characters of the dotted rendering of a path -/
def dottedChars : List String → List Char
  | [] => []
  | [k] => k.toList
  | k :: rest => k.toList ++ '.' :: dottedChars rest

theorem dottedChars_cons2 (k k2 : String) (r : List String) :
    dottedChars (k :: k2 :: r) = k.toList ++ '.' :: dottedChars (k2 :: r) := by
  rw [dottedChars]
  intro h; cases h

theorem dottedChars_eq_renderPath (ks : List String) : dottedChars ks = (renderPath ks).toList := by
  induction ks with
  | nil => simp [dottedChars, renderPath]
  | cons k r ih =>
    cases r with
    | nil => simp [dottedChars, renderPath]
    | cons k2 r =>
      rw [dottedChars_cons2, ih]
      simp [renderPath, String.toList_intercalate, List.intercalate]

/-- path components as they can occur in a dotted key: non-empty, without a dot -/
def goodKeys (ks : List String) : Prop := ∀ k ∈ ks, k ≠ "" ∧ '.' ∉ k.toList

theorem goodKeys_tail {k : String} {ks : List String} (h : goodKeys (k :: ks)) : goodKeys ks :=
  fun x hx => h x (List.mem_cons_of_mem _ hx)

theorem dottedChars_isEmpty {k : String} {r : List String} (h : goodKeys (k :: r)) : (dottedChars (k :: r)).isEmpty = false := by
  have hk : k.toList ≠ [] := fun e => (h k (by simp)).1 (by rw [← String.ofList_toList (s := k), e])
  cases r with
  | nil => simpa [dottedChars] using hk
  | cons k2 r => rw [dottedChars_cons2]; simp

theorem schemaLookup_dotted (fuel : Nat) (s : Schema) (ks : List String) (hg : goodKeys ks) (hne : ks ≠ [])
    (hl : ks.length ≤ fuel) : schemaLookup fuel s (dottedChars ks) = lookupPath s ks := by
  induction ks generalizing fuel s with
  | nil => exact absurd rfl hne
  | cons k r ih =>
    have hk := (hg k List.mem_cons_self).2
    cases fuel with
    | zero => cases hl
    | succ fuel =>
      cases r with
      | nil => simp only [schemaLookup, dottedChars, partitionDot_no_dot _ hk, String.ofList_toList, lookupPath]
      | cons k2 r =>
        have hg' := goodKeys_tail hg
        rw [dottedChars_cons2, lookupPath.eq_3]
        simp only [schemaLookup, partitionDot_append _ _ hk, String.ofList_toList]
        cases hs : s.get k with
        | none => rfl
        | some f =>
          cases f with
          | sub s' =>
            simp only [dottedChars_isEmpty hg', Bool.false_eq_true, if_false]
            exact ih fuel s' hg' (List.cons_ne_nil _ _) (Nat.le_of_succ_le_succ hl)
          | _ => rfl

/-- `c[k1][k2]...[kn]` -/
def chain : Cfg → List String → Option Slot
  | _, [] => none
  | c, [k] => c.get k
  | c, k :: rest =>
    match c.get k with
    | some (.node sub) => chain sub rest
    | _ => none

theorem chain_cons2 (c : Cfg) (k k2 : String) (r : List String) :
    chain c (k :: k2 :: r) = match c.get k with
      | some (.node sub) => chain sub (k2 :: r)
      | _ => none := by
  rw [chain]
  intro h; cases h

theorem cfgLookup_dotted (fuel : Nat) (c : Cfg) (ks : List String) (hg : goodKeys ks) (hne : ks ≠ [])
    (hl : ks.length ≤ fuel) : cfgLookup fuel c (dottedChars ks) = chain c ks := by
  induction ks generalizing fuel c with
  | nil => exact absurd rfl hne
  | cons k r ih =>
    have hk := (hg k List.mem_cons_self).2
    cases fuel with
    | zero => cases hl
    | succ fuel =>
      cases r with
      | nil => simp only [cfgLookup, dottedChars, partitionDot_no_dot _ hk, String.ofList_toList, chain]
      | cons k2 r =>
        rw [dottedChars_cons2, chain_cons2]
        simp only [cfgLookup, partitionDot_append _ _ hk, String.ofList_toList]
        cases hs : c.get k with
        | none => rfl
        | some sl =>
          cases sl with
          | node sub => exact ih fuel sub (goodKeys_tail hg) (List.cons_ne_nil _ _) (Nat.le_of_succ_le_succ hl)
          | _ => rfl

theorem cfgContains_eq (fuel : Nat) (c : Cfg) (dotted : List Char) :
    cfgContains fuel c dotted = (cfgLookup fuel c dotted).isSome := by
  induction fuel generalizing c dotted with
  | zero => rfl
  | succ fuel ih =>
    unfold cfgContains cfgLookup
    rcases partitionDot dotted with ⟨k, _ | rest⟩
    · rfl
    · simp only
      cases c.get (String.ofList k) with
      | none => rfl
      | some sl =>
        cases sl with
        | node sub => exact ih sub rest
        | _ => rfl

theorem cfgContains_eq_isSome (fuel : Nat) (c : Cfg) (ks : List String) (hg : goodKeys ks) (hne : ks ≠ [])
    (hl : ks.length ≤ fuel) : cfgContains fuel c (dottedChars ks) = (cfgLookup fuel c (dottedChars ks)).isSome :=
  cfgContains_eq fuel c (dottedChars ks)

theorem setItem_frame (W : World) (fuel : Nat) (s : Schema) (path : String) (c : Cfg) (dotted : List Char) (a : Arg) (n : Nat)
    (k' : String) (hne : k' ≠ String.ofList (partitionDot dotted).1) :
    (setItem W fuel s path c dotted a n).cfg.get k' = c.get k' :=
  setItem_induction W a n (P := fun _ c k o => k' ≠ k → o.cfg.get k' = c.get k')
    (fun fuel s path c k hk => (setValue_assigned W fuel s path c k a n).get_other hk)
    (fun _ _ _ _ _ => rfl)
    (fun _ c _ _ _ _ _ _ _ _ _ _ _ hk => Cfg.get_set_other c hk _)
    fuel s path c dotted hne

/-- the body of the fold in `cmdlineOverride` (`cmdlineOverride_eq_foldl`): what the override does with one entry of the namespace -/
def overrideStep (W : World) (fuel : Nat) (s : Schema) (ignore : List String) (o : Out) (kv : String × Option Val) : Out :=
  match o.err with
  | some _ => o
  | none =>
    match kv.2 with
    | none => o
    | some v => if ignore.contains kv.1 then o else setItem W fuel s "" o.cfg kv.1.toList (.val v) o.next

theorem cmdlineOverride_eq_foldl (W : World) (fuel : Nat) (s : Schema) (c : Cfg) (ns : List (String × Option Val))
    (ignore : List String) (n : Nat) :
    cmdlineOverride W fuel s c ns ignore n = ns.foldl (overrideStep W fuel s ignore) { cfg := c, next := n } := rfl

/-- the entry is not supplied (`None`) or its key is ignored -/
def notSupplied (ignore : List String) (kv : String × Option Val) : Bool := kv.2.isNone || ignore.contains kv.1

theorem overrideStep_cases (W : World) (fuel : Nat) (s : Schema) (ignore : List String) (o : Out) (kv : String × Option Val) :
    overrideStep W fuel s ignore o kv = o ∨
      notSupplied ignore kv = false ∧
        ∃ v, overrideStep W fuel s ignore o kv = setItem W fuel s "" o.cfg kv.1.toList (.val v) o.next := by
  unfold overrideStep
  split
  · exact .inl rfl
  · split
    · exact .inl rfl
    next v hv =>
      split
      · exact .inl rfl
      next hi => exact .inr ⟨by simpa [notSupplied, hv] using hi, v, rfl⟩

theorem override_nothing_supplied (W : World) (fuel : Nat) (s : Schema) (c : Cfg) (ns : List (String × Option Val))
    (ignore : List String) (n : Nat) (h : ∀ kv ∈ ns, kv.2 = none ∨ ignore.contains kv.1 = true) :
    cmdlineOverride W fuel s c ns ignore n = { cfg := c, next := n } := by
  rw [cmdlineOverride_eq_foldl]
  refine List.foldlRecOn (motive := fun o : Out => o = { cfg := c, next := n }) ns (overrideStep W fuel s ignore) rfl
    fun o ho kv hkv => ?_
  rcases overrideStep_cases W fuel s ignore o kv with he | ⟨hn, _⟩
  · rw [he, ho]
  · rcases h kv hkv with h1 | h1 <;> simp only [notSupplied, h1, Option.isNone_none, Bool.true_or, Bool.or_true] at hn <;> cases hn

theorem override_empty_cmdline (W : World) (fuel : Nat) (s : Schema) (c : Cfg) (opts : List OptSpec) (ignore : List String) (n : Nat) :
    cmdlineOverride W fuel s c (parseArgs opts []) ignore n = { cfg := c, next := n } := by
  apply override_nothing_supplied
  intro kv hkv
  left
  simp only [parseArgs, List.reverse_nil, List.find?_nil, List.mem_map] at hkv
  obtain ⟨d, _, rfl⟩ := hkv
  rfl

/-- the top-level key a dotted name starts with -/
def firstComponent (d : String) : String := String.ofList (partitionDot d.toList).1

/-- does some supplied, non-ignored entry of the namespace start with top-level key `k'`? -/
def touches (ns : List (String × Option Val)) (ignore : List String) (k' : String) : Bool :=
  ns.any (fun kv => !notSupplied ignore kv && firstComponent kv.1 == k')

theorem override_frame (W : World) (fuel : Nat) (s : Schema) (c : Cfg) (ns : List (String × Option Val))
    (ignore : List String) (n : Nat) (k' : String) (h : touches ns ignore k' = false) :
    (cmdlineOverride W fuel s c ns ignore n).cfg.get k' = c.get k' := by
  rw [cmdlineOverride_eq_foldl]
  simp only [touches, List.any_eq_false, Bool.not_eq_true] at h
  refine List.foldlRecOn (motive := fun o : Out => o.cfg.get k' = c.get k') ns (overrideStep W fuel s ignore)
    (b := { cfg := c, next := n }) rfl fun o ho kv hkv => ?_
  rcases overrideStep_cases W fuel s ignore o kv with he | ⟨hn, v, he⟩ <;> rw [he]
  · exact ho
  · have hne := h kv hkv
    rw [hn, Bool.not_false, Bool.true_and, beq_eq_false_iff_ne] at hne
    exact (setItem_frame W fuel s "" o.cfg kv.1.toList (.val v) o.next k' (Ne.symm hne)).trans ho

theorem parser_dests (s : Schema) :
    (genParser s).map (·.dest) = (allFields s).flatMap (fun (p, f) => match f with
      | .leaf fs _ => (match optKindOf fs.kind with
          | some .store => [p]
          | some .flag => [p, p]
          | none => [])
      | _ => []) := by
  unfold genParser
  rw [List.map_flatMap]
  congr 1
  funext ⟨p, f⟩
  cases f with
  | leaf fs m =>
    simp only
    cases optKindOf fs.kind with
    | none => rfl
    | some o => cases o <;> rfl
  | _ => rfl

end Cinco.Config
