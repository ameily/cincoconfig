import Cinco.Config.Keys
/-
  Helper lemmas for C03 (key-file resolution): the keyed `toTreeK` against the plain `toTree`, its dependence on the key
  files of the tree only, the nearest-named-ancestor rule, and the children of a configuration (`kids`): the key files in
  use and the names assigned in a tree are those of the root and of the children's trees.
-/
namespace Cinco.Config
open Cinco Cinco.Field

theorem keyAlong_append (inh : String) (a b : List (Option String)) :
    keyAlong inh (a ++ b) = keyAlong (keyAlong inh a) b := by
  induction a generalizing inh with
  | nil => rfl
  | cons x r ih => cases x <;> simp [keyAlong, ih]

theorem keyAlong_all_none (inh : String) (ch : List (Option String)) (h : ∀ x ∈ ch, x = none) : keyAlong inh ch = inh := by
  induction ch with
  | nil => rfl
  | cons x r ih =>
    have hx : x = none := h x (by simp)
    subst hx
    simpa [keyAlong] using ih (fun y hy => h y (by simp [hy]))

theorem effKey_eq_keyAlong (inh : String) (c : Cfg) : effKey inh c = keyAlong inh [c.keyfile] := by
  unfold effKey
  cases c.keyfile <;> rfl

section const
variable (W : World)

/-- the step of `toTreeK_const` for `toTreeFieldsK`: `ih` is the induction hypothesis on the fuel, handed in as an argument -/
theorem fieldsK_const (fuel : Nat)
    (ih : ∀ (inh : String) (s : Schema) (c : Cfg), toTreeK (fun _ => W) fuel inh s c = toTree W fuel s c false none)
    (key : String) (c : Cfg) :
    ∀ fs : List (String × SField), toTreeFieldsK (fun _ => W) fuel key c fs = toTreeFields W fuel c false none fs := by
  have items : ∀ (s' : Schema) (cs : List Cfg),
      toTreeItemsK (fun _ => W) fuel key s' cs = toTreeItems W fuel s' false none cs := by
    intro s' cs
    induction cs with
    | nil => simp [toTreeItemsK, toTreeItems]
    | cons x r ihr => rw [toTreeItemsK, toTreeItems, ih, ihr]; rfl
  intro fs
  induction fs with
  | nil => simp [toTreeFieldsK, toTreeFields]
  | cons kf rest ihr =>
    obtain ⟨k, f⟩ := kf
    rw [toTreeFieldsK, toTreeFields, ihr]
    have hr : renderFieldK (fun _ => W) fuel key c k f = renderField W fuel c false none k f := by
      cases f with
      | leaf fs m =>
        rw [renderFieldK, renderField]
        cases c.get k with
        | none => rfl
        | some sl => cases sl <;> first | rfl | (simp; rfl)
      | sub s' | ctype s' _ | cfgList s' _ _ _ =>
        rw [renderFieldK, renderField]
        cases c.get k with
        | none => rfl
        | some sl => cases sl <;> simp [ih, items]
      | virtual _ _ | method => simp [renderFieldK, renderField]
    rw [hr]; rfl

theorem toTreeK_const : ∀ (fuel : Nat) (inh : String) (s : Schema) (c : Cfg),
    toTreeK (fun _ => W) fuel inh s c = toTree W fuel s c false none := by
  intro fuel
  induction fuel with
  | zero => intro inh s c; simp [toTreeK, toTree]
  | succ n ih =>
    intro inh s c
    rw [toTreeK, toTree, fieldsK_const W n ih]; rfl

end const

/-- the configurations directly below `c` at one declared field, each with its schema and the key file the field declares
    for it (`none` unless the field is a config type that names one) -/
def kids (c : Cfg) : String × SField → List (Schema × Option String × Cfg)
  | (k, .sub s') => (match c.get k with | some (.node sub) => [(s', none, sub)] | _ => [])
  | (k, .ctype s' kf) => (match c.get k with | some (.node sub) => [(s', kf, sub)] | _ => [])
  | (k, .cfgList s' _ _ _) => (match c.get k with | some (.nodes cs) => cs.map (fun x => (s', none, x)) | _ => [])
  | _ => []

theorem mem_kids {c : Cfg} {k : String} {f : SField} {s' : Schema} {kf : Option String} {x : Cfg}
    (hy : (s', kf, x) ∈ kids c (k, f)) :
    (subSchema f = some (s', kf) ∧ c.get k = some (.node x)) ∨
    (kf = none ∧ ∃ it req m cs, f = .cfgList s' it req m ∧ c.get k = some (.nodes cs) ∧ x ∈ cs) := by
  cases f <;> simp only [kids, List.not_mem_nil] at hy
  -- left are the three field classes with children: a node is the one child, the items of a list are the children
  all_goals
    cases hg : c.get k with
    | none => simp [hg] at hy
    | some sl =>
      cases sl <;> simp only [hg, List.not_mem_nil, List.mem_singleton, List.mem_map] at hy
      first
        | (cases hy; exact Or.inl ⟨rfl, rfl⟩)
        | (obtain ⟨x, hx, h⟩ := hy; cases h; exact Or.inr ⟨rfl, _, _, _, _, rfl, rfl, hx⟩)

theorem kids_node {c : Cfg} {k : String} {f : SField} {s' : Schema} {kf : Option String} {sub : Cfg}
    (hs : subSchema f = some (s', kf)) (hg : c.get k = some (.node sub)) : (s', kf, sub) ∈ kids c (k, f) := by
  cases f <;> cases hs <;> simp [kids, hg]

theorem kids_item {c : Cfg} {k : String} {s' : Schema} {it req : Bool} {m : LeafMeta} {cs : List Cfg} {x : Cfg}
    (hg : c.get k = some (.nodes cs)) (hx : x ∈ cs) : (s', none, x) ∈ kids c (k, .cfgList s' it req m) := by
  simp [kids, hg, hx]

theorem itemKeys_eq (fuel : Nat) (key : String) (s' : Schema) (cs : List Cfg) :
    itemKeys fuel key s' cs = cs.flatMap (nodeKeys fuel key s') := by
  induction cs with
  | nil => rw [itemKeys.eq_def]; rfl
  | cons x r ih => rw [itemKeys.eq_def, List.flatMap_cons, ← ih]

theorem itemNamed_eq (fuel : Nat) (s' : Schema) (cs : List Cfg) : itemNamed fuel s' cs = cs.flatMap (namedKeys fuel s') := by
  induction cs with
  | nil => rw [itemNamed.eq_def]; rfl
  | cons x r ih => rw [itemNamed.eq_def, List.flatMap_cons, ← ih]

/-- what the walks over a tree do at one field: they visit the children there -/
theorem kids_flatMap {β : Type} (g : Schema → Cfg → List β) (c : Cfg) (k : String) (f : SField) :
    (kids c (k, f)).flatMap (fun y => g y.1 y.2.2) =
      match f with
      | .sub s' => (match c.get k with | some (.node sub) => g s' sub | _ => [])
      | .ctype s' _ => (match c.get k with | some (.node sub) => g s' sub | _ => [])
      | .cfgList s' _ _ _ => (match c.get k with | some (.nodes cs) => cs.flatMap (g s') | _ => [])
      | .leaf _ _ => []
      | .virtual _ _ => []
      | .method => [] := by
  cases f with
  | sub s' | ctype s' _ =>
    simp only [kids]
    cases c.get k with
    | none => rfl
    | some sl => cases sl <;> simp
  | cfgList s' _ _ _ =>
    simp only [kids]
    cases c.get k with
    | none => rfl
    | some sl => cases sl <;> simp [List.flatMap_map]
  | leaf _ _ | virtual _ _ | method => rfl

theorem fieldKeys_cons (fuel : Nat) (key : String) (c : Cfg) (kf : String × SField) (rest : List (String × SField)) :
    fieldKeys fuel key c (kf :: rest) =
      (kids c kf).flatMap (fun y => nodeKeys fuel key y.1 y.2.2) ++ fieldKeys fuel key c rest := by
  rw [fieldKeys.eq_def, kids_flatMap]
  simp only [itemKeys_eq]
  rfl

theorem fieldNamed_cons (fuel : Nat) (c : Cfg) (kf : String × SField) (rest : List (String × SField)) :
    fieldNamed fuel c (kf :: rest) = (kids c kf).flatMap (fun y => namedKeys fuel y.1 y.2.2) ++ fieldNamed fuel c rest := by
  rw [fieldNamed.eq_def, kids_flatMap]
  simp only [itemNamed_eq]
  rfl

theorem fieldKeys_eq (fuel : Nat) (key : String) (c : Cfg) (fs : List (String × SField)) :
    fieldKeys fuel key c fs = (fs.flatMap (kids c)).flatMap (fun y => nodeKeys fuel key y.1 y.2.2) := by
  induction fs with
  | nil => rw [fieldKeys.eq_def]; rfl
  | cons kf rest ih => rw [fieldKeys_cons, ih, List.flatMap_cons, List.flatMap_append]

theorem fieldNamed_eq (fuel : Nat) (c : Cfg) (fs : List (String × SField)) :
    fieldNamed fuel c fs = (fs.flatMap (kids c)).flatMap (fun y => namedKeys fuel y.1 y.2.2) := by
  induction fs with
  | nil => rw [fieldNamed.eq_def]; rfl
  | cons kf rest ih => rw [fieldNamed_cons, ih, List.flatMap_cons, List.flatMap_append]

/-- the step of `toTreeK_congr` for `toTreeFieldsK`: `ih` is the induction hypothesis on the fuel, handed in as an argument -/
theorem fieldsK_congr (WK WK' : String → World) (fuel : Nat)
    (ih : ∀ (inh : String) (s : Schema) (c : Cfg), (∀ x ∈ nodeKeys fuel inh s c, WK x = WK' x) →
      toTreeK WK fuel inh s c = toTreeK WK' fuel inh s c)
    (key : String) (c : Cfg) (hkey : WK key = WK' key) :
    ∀ fs : List (String × SField), (∀ x ∈ fieldKeys fuel key c fs, WK x = WK' x) →
      toTreeFieldsK WK fuel key c fs = toTreeFieldsK WK' fuel key c fs := by
  have items : ∀ (s' : Schema) (cs : List Cfg), (∀ x ∈ cs, toTreeK WK fuel key s' x = toTreeK WK' fuel key s' x) →
      toTreeItemsK WK fuel key s' cs = toTreeItemsK WK' fuel key s' cs := by
    intro s' cs
    induction cs with
    | nil => intro _; simp [toTreeItemsK]
    | cons x r ihr =>
      intro h
      rw [toTreeItemsK, toTreeItemsK, h x List.mem_cons_self, ihr fun y hy => h y (List.mem_cons_of_mem _ hy)]
  intro fs
  induction fs with
  | nil => intro _; simp [toTreeFieldsK]
  | cons kf rest ihr =>
    obtain ⟨k, f⟩ := kf
    intro h
    have hkid : ∀ y ∈ kids c (k, f), toTreeK WK fuel key y.1 y.2.2 = toTreeK WK' fuel key y.1 y.2.2 := fun y hy =>
      ih key y.1 y.2.2 fun x hx =>
        h x (by rw [fieldKeys_cons]; exact List.mem_append_left _ (List.mem_flatMap.mpr ⟨y, hy, hx⟩))
    rw [toTreeFieldsK, toTreeFieldsK, ihr (fun y hy => h y (by rw [fieldKeys_cons]; exact List.mem_append_right _ hy))]
    have hr : renderFieldK WK fuel key c k f = renderFieldK WK' fuel key c k f := by
      cases f with
      | leaf fs m => simp only [renderFieldK, hkey]
      | sub s' | ctype s' _ =>
        simp only [renderFieldK]
        cases hg : c.get k with
        | none => rfl
        | some sl =>
          cases sl with
          | node sub => simp only []; rw [hkid _ (kids_node rfl hg)]
          | _ => rfl
      | cfgList s' it req m =>
        simp only [renderFieldK]
        cases hg : c.get k with
        | none => rfl
        | some sl =>
          cases sl with
          | nodes cs => simp only []; rw [items s' cs fun x hx => hkid _ (kids_item hg hx)]
          | _ => rfl
      | virtual _ _ | method => simp [renderFieldK]
    rw [hr]

theorem toTreeK_congr (WK WK' : String → World) : ∀ (fuel : Nat) (inh : String) (s : Schema) (c : Cfg),
    (∀ x ∈ nodeKeys fuel inh s c, WK x = WK' x) → toTreeK WK fuel inh s c = toTreeK WK' fuel inh s c := by
  intro fuel
  induction fuel with
  | zero => intro inh s c _; simp [toTreeK]
  | succ n ih =>
    intro inh s c h
    rw [toTreeK, toTreeK, fieldsK_congr WK WK' n ih (effKey inh c) c (h _ (by simp [nodeKeys]))
      s.fields (fun y hy => h y (by simp [nodeKeys, hy]))]

theorem effKey_named (inh : String) (c : Cfg) (fuel : Nat) (s : Schema) :
    effKey inh c = inh ∨ effKey inh c ∈ namedKeys (fuel + 1) s c := by
  unfold effKey
  cases hk : c.keyfile with
  | none => exact .inl rfl
  | some k => exact .inr (by simp [namedKeys, hk])

theorem nodeKeys_subset (fuel : Nat) (inh : String) (s : Schema) (c : Cfg) :
    ∀ x ∈ nodeKeys fuel inh s c, x = inh ∨ x ∈ namedKeys fuel s c := by
  induction fuel generalizing inh s c with
  | zero => intro x hx; simp [nodeKeys] at hx
  | succ n ih =>
    intro x hx
    rw [nodeKeys, fieldKeys_eq, List.mem_cons, List.mem_flatMap] at hx
    rcases hx with rfl | ⟨y, hy, hx⟩
    · exact effKey_named inh c n s
    · rcases ih _ y.1 y.2.2 x hx with rfl | h
      · exact effKey_named inh c n s
      · exact .inr (by rw [namedKeys, fieldNamed_eq]; exact List.mem_append_right _ (List.mem_flatMap.mpr ⟨y, hy, h⟩))

theorem nodeKeys_named_root (fuel : Nat) (inh : String) (s : Schema) (c : Cfg) (k : String) (hk : c.keyfile = some k) :
    ∀ x ∈ nodeKeys fuel inh s c, x ∈ namedKeys fuel s c := by
  cases fuel with
  | zero => intro x hx; simp [nodeKeys] at hx
  | succ n =>
    intro x hx
    -- the tree does not see what it inherits: take the root's own name as the inherited one
    have hroot : nodeKeys (n + 1) inh s c = nodeKeys (n + 1) k s c := by simp [nodeKeys, effKey, hk]
    rw [hroot] at hx
    rcases nodeKeys_subset (n + 1) k s c x hx with rfl | h
    · simp [namedKeys, hk]
    · exact h

theorem nodeKeys_unnamed (fuel : Nat) (inh : String) (s : Schema) (c : Cfg) (h : namedKeys fuel s c = []) :
    ∀ x ∈ nodeKeys fuel inh s c, x = inh := by
  intro x hx
  rcases nodeKeys_subset fuel inh s c x hx with h' | h'
  · exact h'
  · rw [h] at h'; cases h'

/-- one step of "the key file in use at the end of a path of sub-configurations is the nearest one named on the path" -/
theorem ownChain_key (inh : String) : ∀ (path : List String) (c : Cfg) (ch : List (Option String)),
    ownChain c path = some ch →
    keyAlong inh ch = (match path with
      | [] => effKey inh c
      | k :: rest => match c.get k with
        | some (.node sub) => (ownChain sub rest).elim inh (keyAlong (effKey inh c))
        | _ => inh) := by
  intro path c ch h
  cases path with
  | nil =>
    cases h
    exact (effKey_eq_keyAlong inh c).symm
  | cons k rest =>
    simp only [ownChain] at h
    split at h
    next sub hg =>
      obtain ⟨ch', hs, rfl⟩ := Option.map_eq_some_iff.1 h
      simp only [hg, hs, Option.elim]
      unfold effKey
      cases c.keyfile <;> rfl
    · cases h

end Cinco.Config
