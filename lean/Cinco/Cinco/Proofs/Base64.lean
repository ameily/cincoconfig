import Cinco.Field.Base64
/-
  Decoding inverts encoding, for base64 (strict and non-strict) and for hex.  The decoder is a state machine over characters and
  the encoder works on groups of three bytes; they meet in `Encoded`, the texts the encoder can write, with the sextets as
  variables.  The strict decoder's extra test is the shape `strictShape`, which rejects every foreign character.
-/
namespace Cinco.B64

theorem decChar_encChar : ∀ n, n < 64 → decChar (encChar n) = some n := by decide
theorem encChar_ascii : ∀ n, n < 64 → (encChar n).toNat < 128 := by decide

theorem encChar_ne_pad (n : Nat) (hn : n < 64) : encChar n ≠ '=' := fun h => by
  have := decChar_encChar n hn
  rw [h] at this
  cases this

theorem inAlphabet_eq_decChar (c : Char) : inAlphabet c = (decChar c).isSome := by
  simp [inAlphabet, decChar, apply_ite Option.isSome, Bool.or_assoc, Bool.beq_eq_decide_eq]

theorem encChar_inAlphabet (n : Nat) (hn : n < 64) : inAlphabet (encChar n) = true := by
  rw [inAlphabet_eq_decChar, decChar_encChar n hn]; rfl

/-- What `encode` writes, group by group: characters of sextets below 64 which, put together the way the decoder does,
    give the bytes of the group back; a last group of one or two bytes is filled up with `=`.  All the arithmetic of the
    format is in `encode_isEncoded`; what is proved about `encode` below is proved about any `Encoded` text, with the sextets as
    variables. -/
inductive Encoded : Bytes → Str → Prop
  | nil : Encoded [] []
  | one (a : UInt8) (s0 s1 : Nat) : s0 < 64 → s1 < 64 → s0 * 4 + s1 / 16 = a.toNat →
      Encoded [a] [encChar s0, encChar s1, '=', '=']
  | two (a b : UInt8) (s0 s1 s2 : Nat) : s0 < 64 → s1 < 64 → s2 < 64 →
      s0 * 4 + s1 / 16 = a.toNat → s1 % 16 * 16 + s2 / 4 = b.toNat →
      Encoded [a, b] [encChar s0, encChar s1, encChar s2, '=']
  | three (a b c : UInt8) (s0 s1 s2 s3 : Nat) (rest : Bytes) (t : Str) : s0 < 64 → s1 < 64 → s2 < 64 → s3 < 64 →
      s0 * 4 + s1 / 16 = a.toNat → s1 % 16 * 16 + s2 / 4 = b.toNat → s2 % 4 * 64 + s3 = c.toNat →
      Encoded rest t → Encoded (a :: b :: c :: rest) (encChar s0 :: encChar s1 :: encChar s2 :: encChar s3 :: t)

theorem encode_isEncoded : ∀ (b : Bytes), Encoded b (encode b)
  | [] => .nil
  | [a] => by
    have := a.toNat_lt
    exact .one a _ _ (by omega) (by omega) (by omega)
  | [a, b] => by
    have := a.toNat_lt
    have := b.toNat_lt
    exact .two a b _ _ _ (by omega) (Nat.mod_lt _ (by decide)) (by omega) (by omega) (by omega)
  | a :: b :: c :: rest => by
    have := a.toNat_lt
    have := b.toNat_lt
    have := c.toNat_lt
    exact .three a b c _ _ _ _ rest _ (by omega) (Nat.mod_lt _ (by decide)) (Nat.mod_lt _ (by decide))
      (Nat.mod_lt _ (by decide)) (by omega) (by omega) (by omega) (encode_isEncoded rest)

theorem decodeGo_encChar (quad left pads : Nat) (n : Nat) (hn : n < 64) (rest : Str) :
    decodeGo quad left pads (encChar n :: rest) =
      match quad with
      | 0 => decodeGo 1 n 0 rest
      | 1 => (decodeGo 2 (n % 16) 0 rest).map (UInt8.ofNat (left * 4 + n / 16) :: ·)
      | 2 => (decodeGo 3 (n % 4) 0 rest).map (UInt8.ofNat (left * 16 + n / 4) :: ·)
      | _ => (decodeGo 0 0 0 rest).map (UInt8.ofNat (left * 64 + n) :: ·) := by
  rw [decodeGo, if_neg (encChar_ne_pad n hn), decChar_encChar n hn]
  rfl

theorem decodeGo_encoded {b : Bytes} {s : Str} (h : Encoded b s) : decodeGo 0 0 0 s = some b := by
  induction h with
  | nil => rfl
  | one a s0 s1 h0 h1 ha =>
    rw [decodeGo_encChar 0 0 0 _ h0, decodeGo_encChar 1 _ 0 _ h1, ha, UInt8.ofNat_toNat]
    simp [decodeGo]
  | two a b s0 s1 s2 h0 h1 h2 ha hb =>
    rw [decodeGo_encChar 0 0 0 _ h0, decodeGo_encChar 1 _ 0 _ h1, decodeGo_encChar 2 _ 0 _ h2, ha, hb, UInt8.ofNat_toNat, UInt8.ofNat_toNat]
    simp [decodeGo]
  | three a b c s0 s1 s2 s3 rest t h0 h1 h2 h3 ha hb hc _ ih =>
    rw [decodeGo_encChar 0 0 0 _ h0, decodeGo_encChar 1 _ 0 _ h1, decodeGo_encChar 2 _ 0 _ h2, decodeGo_encChar 3 _ 0 _ h3, ih, ha, hb, hc,
      UInt8.ofNat_toNat, UInt8.ofNat_toNat, UInt8.ofNat_toNat]
    rfl

theorem decodeGo_encode (b : Bytes) : decodeGo 0 0 0 (encode b) = some b := decodeGo_encoded (encode_isEncoded b)

theorem encoded_ascii {b : Bytes} {s : Str} (h : Encoded b s) : s.all (fun c => c.toNat < 128) = true := by
  induction h <;> simp [encChar_ascii, *]

theorem encode_ascii (b : Bytes) : (encode b).all (fun c => c.toNat < 128) = true := encoded_ascii (encode_isEncoded b)

theorem decode_encode (b : Bytes) : decode (encode b) = some b := by
  unfold decode
  rw [if_pos (encode_ascii b), decodeGo_encode]

theorem strictShape_cons (c : Char) (s : Str) (h : inAlphabet c = true) : strictShape (c :: s) = strictShape s := by
  simp [strictShape, h]

theorem encoded_strictShape {b : Bytes} {s : Str} (h : Encoded b s) : strictShape s = true := by
  induction h with
  | nil => rfl
  | one a s0 s1 h0 h1 => rw [strictShape_cons _ _ (encChar_inAlphabet _ h0), strictShape_cons _ _ (encChar_inAlphabet _ h1)]; rfl
  | two a b s0 s1 s2 h0 h1 h2 =>
    rw [strictShape_cons _ _ (encChar_inAlphabet _ h0), strictShape_cons _ _ (encChar_inAlphabet _ h1),
      strictShape_cons _ _ (encChar_inAlphabet _ h2)]; rfl
  | three a b c s0 s1 s2 s3 rest t h0 h1 h2 h3 _ _ _ _ ih =>
    rw [strictShape_cons _ _ (encChar_inAlphabet _ h0), strictShape_cons _ _ (encChar_inAlphabet _ h1),
      strictShape_cons _ _ (encChar_inAlphabet _ h2), strictShape_cons _ _ (encChar_inAlphabet _ h3), ih]

theorem encode_strictShape (b : Bytes) : strictShape (encode b) = true := encoded_strictShape (encode_isEncoded b)

theorem decodeStrict_encode (b : Bytes) : decodeStrict (encode b) = some b := by
  unfold decodeStrict
  rw [if_pos (encode_strictShape b), decode_encode]

theorem decodeStrict_some_decode (s : Str) (b : Bytes) (h : decodeStrict s = some b) : decode s = some b := by
  unfold decodeStrict at h
  split at h
  · exact h
  · cases h

theorem strictShape_mem (s : Str) (h : strictShape s = true) (c : Char) (hc : c ∈ s) :
    inAlphabet c = true ∨ c = '=' := by
  rw [← List.takeWhile_append_dropWhile (p := inAlphabet) (l := s), List.mem_append] at hc
  rcases hc with hc | hc
  · exact Or.inl (List.all_eq_true.1 List.all_takeWhile c hc)
  · right
    unfold strictShape at h
    simp only [Bool.or_eq_true, beq_iff_eq] at h
    rcases h with (h | h) | h <;> simp_all

theorem decodeStrict_rejects_foreign (s : Str) (h : ∃ c ∈ s, inAlphabet c = false ∧ c ≠ '=') :
    decodeStrict s = none := by
  obtain ⟨c, hc, hna, hne⟩ := h
  unfold decodeStrict
  split
  · next hs =>
    rcases strictShape_mem s hs c hc with h | h
    · rw [hna] at h; cases h
    · exact absurd h hne
  · rfl

/-- the strict shape: no `=` inside, at most two at the end, nothing foreign anywhere -/
example : strictShape "QUJD".toList = true ∧ strictShape "QUI=".toList = true ∧ strictShape "QQ==".toList = true ∧
    strictShape "Q===".toList = false ∧ strictShape "QQ==\n".toList = false ∧ strictShape "QQ=Q".toList = false ∧
    strictShape "!!!!".toList = false ∧ strictShape "".toList = true := by decide
/-- wrong length / padding is still the decoder's business -/
example : decodeStrict "QQ".toList = none ∧ decodeStrict "QQ=".toList = none ∧ decodeStrict "QQ==".toList = some [65] ∧
    decode "!!!!".toList = some [] ∧ decodeStrict "!!!!".toList = none ∧
    decode "QQ==!!??".toList = some [65] ∧ decodeStrict "QQ==!!??".toList = none := by decide

theorem hexVal_hexChar : ∀ n, n < 16 → hexVal (hexChar n) = some n := by decide
theorem hexChar_not_space : ∀ n, n < 16 → isHexSpace (hexChar n) = false := by decide

theorem hexDecode_hexEncode (b : Bytes) : hexDecode (hexEncode b) = some b := by
  induction b with
  | nil => rfl
  | cons a rest ih =>
    have ha : a.toNat < 256 := a.toNat_lt
    simp only [hexEncode, hexDecode, hexChar_not_space (a.toNat / 16) (by omega), Bool.false_eq_true, if_false,
      hexVal_hexChar (a.toNat / 16) (by omega), hexVal_hexChar (a.toNat % 16) (by omega),
      ih, Option.map_some, Nat.div_add_mod', UInt8.ofNat_toNat]

end Cinco.B64
