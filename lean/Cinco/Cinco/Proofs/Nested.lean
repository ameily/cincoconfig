import Cinco.Config.Nested
/-
  Lemmas about the walk `renderNested` over nested containers of configurations.
  `Held` is a nested inductive type and the model's functions come in threes (a held value, a list, a keyed list).
  `Held.induct` hands the induction hypothesis to every member of a container, so each fact is proved once, for a held value;
  its list-level forms are the instances at `.list items` / `.dict kvs`.  For the walk itself the list-level functions are
  core's `map` / `zipWith` / `flatMap` of the value-level ones, and the container cases are core's list lemmas.  The string
  searches (`Tree.anyStrList`, `ownAnyStrItems`, …) are folds of `||` with no such form, so `anyStr_toBasic` runs an induction
  over the members inside its container cases.
-/
namespace Cinco.Nested
open Cinco

-- here, so that Lean derives their equations once and not again in every proof that unfolds one of them
attribute [local simp] renderNested renderItems renderVals toBasic toBasicItems toBasicVals cfgIds cfgIdsItems cfgIdsVals

theorem Held.induct {motive : Held → Prop} (cfg : ∀ id, motive (.cfg id)) (leaf : ∀ t, motive (.leaf t))
    (list : ∀ items, (∀ h ∈ items, motive h) → motive (.list items))
    (dict : ∀ kvs : List (String × Held), (∀ e ∈ kvs, motive e.2) → motive (.dict kvs)) (h : Held) : motive h :=
  @Held.rec motive (fun items => ∀ h ∈ items, motive h) (fun kvs => ∀ e ∈ kvs, motive e.2) (fun e => motive e.2)
    cfg list dict leaf (fun _ hm => nomatch hm) (fun _ _ hh ht => List.forall_mem_cons.2 ⟨hh, ht⟩)
    (fun _ hm => nomatch hm) (fun _ _ hh ht => List.forall_mem_cons.2 ⟨hh, ht⟩) (fun _ _ hs => hs) h

theorem zipWith_congr_left {α β γ} {f g : α → β → γ} {as : List α} (h : ∀ a ∈ as, ∀ b, f a b = g a b) (bs : List β) :
    List.zipWith f as bs = List.zipWith g as bs :=
  List.ext_getElem (by simp) fun i _ _ => by simp [h _ (List.getElem_mem _)]

theorem zipWith_eq_map_right {α β γ} {f : α → β → γ} {g : β → γ} {as : List α} {bs : List β} (hl : as.length = bs.length)
    (h : ∀ a ∈ as, ∀ b, f a b = g b) : List.zipWith f as bs = bs.map g :=
  List.ext_getElem (by simp [hl]) fun i _ _ => by simp [h _ (List.getElem_mem _)]

theorem toBasicItems_eq_map (U : Nat → Tree) (items : List Held) : toBasicItems U items = items.map (toBasic U) := by
  induction items with
  | nil => simp
  | cons h hs ih => simp [ih]

theorem toBasicVals_eq_map (U : Nat → Tree) (kvs : List (String × Held)) :
    toBasicVals U kvs = kvs.map (fun e => (e.1, toBasic U e.2)) := by
  induction kvs with
  | nil => simp
  | cons e rest ih => simp [ih]

theorem keys_toBasicVals (U : Nat → Tree) (kvs : List (String × Held)) : (toBasicVals U kvs).map (·.1) = kvs.map (·.1) := by
  simp [toBasicVals_eq_map]

theorem cfgIdsItems_eq_flatMap : ∀ items : List Held, cfgIdsItems items = items.flatMap cfgIds := by
  intro items
  induction items with
  | nil => simp
  | cons h hs ih => simp [ih]

theorem cfgIdsVals_eq_flatMap : ∀ kvs : List (String × Held), cfgIdsVals kvs = kvs.flatMap (fun e => cfgIds e.2) := by
  intro kvs
  induction kvs with
  | nil => simp
  | cons e rest ih => simp [ih]

theorem renderItems_eq_zipWith (R : Nat → Tree) (hs : List Held) (bs : List Tree) :
    renderItems R hs bs = List.zipWith (renderNested R) hs bs := by
  induction hs generalizing bs with
  | nil => simp
  | cons h hs ih => cases bs <;> simp [ih]

theorem renderVals_eq_zipWith (R : Nat → Tree) (hs : List (String × Held)) (bs : List (String × Tree)) :
    renderVals R hs bs = List.zipWith (fun e kb => (kb.1, renderNested R e.2 kb.2)) hs bs := by
  induction hs generalizing bs with
  | nil => simp
  | cons e hs ih => cases bs <;> simp [ih]

@[simp] theorem length_renderItems (R : Nat → Tree) : ∀ (hs : List Held) (bs : List Tree),
    (renderItems R hs bs).length = min hs.length bs.length := by
  simp [renderItems_eq_zipWith]

@[simp] theorem length_renderVals (R : Nat → Tree) : ∀ (hs : List (String × Held)) (bs : List (String × Tree)),
    (renderVals R hs bs).length = min hs.length bs.length := by
  simp [renderVals_eq_zipWith]

theorem keys_renderVals (R : Nat → Tree) (hs : List (String × Held)) (bs : List (String × Tree)) (hl : hs.length = bs.length) :
    (renderVals R hs bs).map (·.1) = bs.map (·.1) := by
  rw [renderVals_eq_zipWith, List.map_zipWith]
  exact zipWith_eq_map_right hl fun _ _ _ => rfl

theorem render_toBasic (R U : Nat → Tree) (h : Held) : renderNested R h (toBasic U h) = toBasic R h := by
  induction h using Held.induct with
  | cfg id => simp
  | leaf t => simp
  | list items ih =>
    simp only [toBasic, renderNested, toBasicItems_eq_map, List.length_map, if_true, renderItems_eq_zipWith,
      List.zipWith_map_right, List.zipWith_self, List.map_congr_left ih]
  | dict kvs ih =>
    simp only [toBasic, renderNested, toBasicVals_eq_map, List.length_map, if_true, renderVals_eq_zipWith,
      List.zipWith_map_right, List.zipWith_self]
    rw [List.map_congr_left fun e he => by rw [ih e he]]

theorem renderItems_toBasic (R U : Nat → Tree) : ∀ items : List Held,
    renderItems R items (toBasicItems U items) = toBasicItems R items := by
  intro items
  simpa [toBasicItems_eq_map] using render_toBasic R U (.list items)

theorem renderVals_toBasic (R U : Nat → Tree) : ∀ kvs : List (String × Held),
    renderVals R kvs (toBasicVals U kvs) = toBasicVals R kvs := by
  intro kvs
  simpa [toBasicVals_eq_map] using render_toBasic R U (.dict kvs)

theorem render_noCfg (R : Nat → Tree) (h : Held) (b : Tree) (hc : cfgIds h = []) : renderNested R h b = b := by
  induction h using Held.induct generalizing b with
  | cfg id => cases hc
  | leaf t => rfl
  | list items ih =>
    rw [cfgIds, cfgIdsItems_eq_flatMap, List.flatMap_eq_nil_iff] at hc
    cases b with
    | list bs =>
      rw [renderNested]
      split
      · next hl => rw [renderItems_eq_zipWith, zipWith_eq_map_right hl fun h hm b => ih h hm b (hc h hm), List.map_id']
      · rfl
    | _ => rfl
  | dict kvs ih =>
    rw [cfgIds, cfgIdsVals_eq_flatMap, List.flatMap_eq_nil_iff] at hc
    cases b with
    | dict bkvs =>
      rw [renderNested]
      split
      · next hl =>
        rw [renderVals_eq_zipWith, zipWith_eq_map_right hl fun e hm kb => by rw [ih e hm kb.2 (hc e hm)], List.map_id']
      · rfl
    | _ => rfl

theorem renderVals_noCfg (R : Nat → Tree) : ∀ (hs : List (String × Held)) (bs : List (String × Tree)), cfgIdsVals hs = [] →
    hs.length = bs.length → renderVals R hs bs = bs := by
  intro hs bs hc hl
  simpa [hl] using render_noCfg R (.dict hs) (.dict bs) hc

theorem render_congr (R R' : Nat → Tree) (h : Held) (b : Tree) (hr : ∀ id ∈ cfgIds h, R id = R' id) :
    renderNested R h b = renderNested R' h b := by
  induction h using Held.induct generalizing b with
  | cfg id => exact hr id List.mem_cons_self
  | leaf t => rfl
  | list items ih =>
    simp only [cfgIds, cfgIdsItems_eq_flatMap, List.mem_flatMap] at hr
    cases b with
    | list bs =>
      rw [renderNested, renderNested, renderItems_eq_zipWith, renderItems_eq_zipWith,
        zipWith_congr_left fun h hm b => ih h hm b fun id hid => hr id ⟨h, hm, hid⟩]
    | _ => rfl
  | dict kvs ih =>
    simp only [cfgIds, cfgIdsVals_eq_flatMap, List.mem_flatMap] at hr
    cases b with
    | dict bkvs =>
      rw [renderNested, renderNested, renderVals_eq_zipWith, renderVals_eq_zipWith,
        zipWith_congr_left fun e hm kb => by rw [ih e hm kb.2 fun id hid => hr id ⟨e, hm, hid⟩]]
    | _ => rfl

/-- without a premise on the lengths, so not the instance of `render_congr` at `.dict hs` -/
theorem renderVals_congr (R R' : Nat → Tree) : ∀ (hs : List (String × Held)) (bs : List (String × Tree)),
    (∀ id ∈ cfgIdsVals hs, R id = R' id) → renderVals R hs bs = renderVals R' hs bs := by
  intro hs bs hr
  simp only [cfgIdsVals_eq_flatMap, List.mem_flatMap] at hr
  rw [renderVals_eq_zipWith, renderVals_eq_zipWith,
    zipWith_congr_left fun e hm kb => by rw [render_congr R R' e.2 kb.2 fun id hid => hr id ⟨e, hm, hid⟩]]

theorem anyStr_toBasic (p : Str → Bool) (U : Nat → Tree) (h : Held) :
    Tree.anyStr p (toBasic U h) = (ownAnyStr p h || (cfgIds h).any (fun id => Tree.anyStr p (U id))) := by
  induction h using Held.induct with
  | cfg id => simp [ownAnyStr]
  | leaf t => simp [ownAnyStr]
  | list items ih =>
    simp only [toBasic, Tree.anyStr, ownAnyStr, cfgIds]
    induction items with
    | nil => rfl
    | cons h hs ihs =>
      simp only [toBasicItems, Tree.anyStrList, ownAnyStrItems, cfgIdsItems, List.any_append]
      rw [ih h List.mem_cons_self, ihs fun x hx => ih x (List.mem_cons_of_mem _ hx)]
      ac_rfl
  | dict kvs ih =>
    simp only [toBasic, Tree.anyStr, ownAnyStr, cfgIds]
    induction kvs with
    | nil => rfl
    | cons e rest ihs =>
      simp only [toBasicVals, Tree.anyStrKvs, ownAnyStrVals, cfgIdsVals, List.any_append]
      rw [ih e List.mem_cons_self, ihs fun x hx => ih x (List.mem_cons_of_mem _ hx)]
      ac_rfl

theorem anyStrList_toBasic (p : Str → Bool) (U : Nat → Tree) : ∀ items : List Held,
    Tree.anyStrList p (toBasicItems U items) = (ownAnyStrItems p items || (cfgIdsItems items).any (fun id => Tree.anyStr p (U id))) :=
  fun items => anyStr_toBasic p U (.list items)

theorem anyStrKvs_toBasic (p : Str → Bool) (U : Nat → Tree) : ∀ kvs : List (String × Held),
    Tree.anyStrKvs p (toBasicVals U kvs) = (ownAnyStrVals p kvs || (cfgIdsVals kvs).any (fun id => Tree.anyStr p (U id))) :=
  fun kvs => anyStr_toBasic p U (.dict kvs)

end Cinco.Nested
