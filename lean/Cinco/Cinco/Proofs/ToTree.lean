import Cinco.Config.Ops
/-
  What `to_tree` writes, said once and as membership (`mem_toTree`); that the declared entries come first, in schema order, is
  `toTree_succ_eq`.
-/
namespace Cinco.Config
open Cinco Cinco.Field

/-- the entry `to_tree` appends for a dynamically added field -/
def dynEntry (s : Schema) (c : Cfg) (k : String) : Option (Val × Val) :=
  if (s.get k).isSome then none else
    match c.get k with
    | some (.val v) => some (Val.str k.toList, v)
    | _ => none

theorem dynEntry_some {s : Schema} {c : Cfg} {k : String} {e : Val × Val} (h : dynEntry s c k = some e) :
    s.get k = none ∧ ∃ v, c.get k = some (.val v) ∧ e = (Val.str k.toList, v) := by
  unfold dynEntry at h
  cases hk : s.get k with
  | some f => simp [hk] at h
  | none =>
    simp only [hk, Option.isSome_none, Bool.false_eq_true, if_false] at h
    split at h
    · rename_i v hv
      cases h
      exact ⟨rfl, v, hv, rfl⟩
    · cases h

theorem toTree_succ_eq (W : World) (d : Nat) (s : Schema) (c : Cfg) (virt : Bool) (mask : Option Str) :
    toTree W (d + 1) s c virt mask =
      (toTreeFields W d c virt mask s.fields).map (fun declared => declared ++ c.dyn.filterMap (dynEntry s c)) := by
  rw [toTree]
  cases toTreeFields W d c virt mask s.fields <;> rfl

theorem toTreeFields_cons_eq_some {W : World} {d : Nat} {c : Cfg} {virt : Bool} {mask : Option Str} {k : String} {f : SField}
    {rest : List (String × SField)} {t : List (Val × Val)} :
    toTreeFields W d c virt mask ((k, f) :: rest) = some t ↔
      ∃ r t', renderField W d c virt mask k f = some r ∧ toTreeFields W d c virt mask rest = some t' ∧
        t = (r.map fun v => (Val.str k.toList, v)).toList ++ t' := by
  rw [toTreeFields]
  rcases renderField W d c virt mask k f with _ | _ | v <;> rcases toTreeFields W d c virt mask rest with _ | t' <;>
    simp [eq_comm]

theorem toTreeItems_cons_eq_some {W : World} {d : Nat} {s' : Schema} {virt : Bool} {mask : Option Str} {x : Cfg} {rest : List Cfg}
    {ts : List Val} :
    toTreeItems W d s' virt mask (x :: rest) = some ts ↔
      ∃ t ts', toTree W d s' x virt mask = some t ∧ toTreeItems W d s' virt mask rest = some ts' ∧ ts = .dict t :: ts' := by
  rw [toTreeItems]
  rcases toTree W d s' x virt mask with _ | t <;> rcases toTreeItems W d s' virt mask rest with _ | ts' <;> simp [eq_comm]

theorem toTreeFields_some {W : World} {d : Nat} {c : Cfg} {virt : Bool} {mask : Option Str}
    {fields : List (String × SField)} {t : List (Val × Val)} (h : toTreeFields W d c virt mask fields = some t) :
    (∀ k f, (k, f) ∈ fields → ∃ r, renderField W d c virt mask k f = some r) ∧
    ∀ kv, kv ∈ t ↔ ∃ k f v, (k, f) ∈ fields ∧ renderField W d c virt mask k f = some (some v) ∧ kv = (.str k.toList, v) := by
  induction fields generalizing t with
  | nil =>
    rw [toTreeFields] at h
    cases h
    simp
  | cons kf rest ih =>
    obtain ⟨k, f⟩ := kf
    obtain ⟨r, t', hr, ht', rfl⟩ := toTreeFields_cons_eq_some.1 h
    obtain ⟨ih1, ih2⟩ := ih ht'
    refine ⟨fun k' f' hm => (List.mem_cons.1 hm).elim (fun he => by cases he; exact ⟨r, hr⟩) (ih1 k' f'), fun kv => ?_⟩
    rw [List.mem_append, ih2]
    constructor
    · rintro (hm | ⟨k', f', v, hm, h1, h2⟩)
      · cases r with
        | none => cases hm
        | some v => exact ⟨k, f, v, by simp, hr, by simpa using hm⟩
      · exact ⟨k', f', v, List.mem_cons_of_mem _ hm, h1, h2⟩
    · rintro ⟨k', f', v, hm, h1, h2⟩
      rcases List.mem_cons.1 hm with he | hm
      · cases he
        rw [hr] at h1
        cases h1
        exact Or.inl (by simp [h2])
      · exact Or.inr ⟨k', f', v, hm, h1, h2⟩

/-- **What `to_tree` writes**: every declaration is rendered, to a value or to nothing; the tree has an entry for every
    declaration that renders to a value, and the dynamically added fields (the order is in `toTree_succ_eq`) -/
theorem mem_toTree {W : World} {fuel : Nat} {s : Schema} {c : Cfg} {virt : Bool} {mask : Option Str} {t : List (Val × Val)}
    (h : toTree W fuel s c virt mask = some t) : ∃ d, fuel = d + 1 ∧
      (∀ k f, (k, f) ∈ s.fields → ∃ r, renderField W d c virt mask k f = some r) ∧
      ∀ kv, kv ∈ t ↔
        (∃ k f v, (k, f) ∈ s.fields ∧ renderField W d c virt mask k f = some (some v) ∧ kv = (.str k.toList, v)) ∨
        ∃ k ∈ c.dyn, dynEntry s c k = some kv := by
  cases fuel with
  | zero => rw [toTree] at h; cases h
  | succ d =>
    rw [toTree_succ_eq, Option.map_eq_some_iff] at h
    obtain ⟨declared, htf, rfl⟩ := h
    obtain ⟨hall, hmem⟩ := toTreeFields_some htf
    exact ⟨d, rfl, hall, fun kv => by rw [List.mem_append, hmem, List.mem_filterMap]⟩

end Cinco.Config
