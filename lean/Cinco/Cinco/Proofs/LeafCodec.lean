import Cinco.Props.C05
/-
  The codec of one declaration, with no configuration in sight.

  Accepted values have the shape of their declaration (`validate_shape`), so `to_basic` of a `Typed` declaration writes
  plain data (`Val.plain`, `toBasic_plain`).
  Each kind's `to_python` undoes its `to_basic` on the fixed points of validation, with four exceptions (`Canon`);
  `exact_codec` combines the kinds at every nesting depth.  Proofs/RoundtripLeaf.lean lifts both to configurations; `TopCanon`
  and `Flat`, which only its statements use, are defined here because they speak of one declaration.

  The guards on declarations, Boolean triples `X` / `XOpt` / `XKind` (`Flat`: a pair).  Here: `NoCustom` (no custom validator at any level:
  results have a `Shape`), `Typed` ⊆ `NoCustom` (`typed_noCustom`; also no `AnyField`, no untyped container, text keys: what is
  written is plain data), `Supported` (custom validators anywhere but on a typed container itself: `exact_codec`), `Flat` ⊆
  `Supported` (`flat_supported`; every fixed point is `TopCanon`: `flat_topCanon`).  Upstream: `IdemOk` ⊆ `CompleteOk`
  (`completeOk_of_idemOk`, Proofs/ValidateIdem.lean; both without custom validators at the levels that are run, and minus F22 / F25).
  `CompleteOk` ⊄ `NoCustom`: the items of an untyped list are never validated, so there `CompleteOk` admits an `AnyField` item
  with a custom validator.
-/

namespace Cinco

mutual
  /-- plain data: what JSON / YAML / … can carry -/
  def Val.plain : Val → Bool
    | .none => true
    | .bool _ => true
    | .int _ => true
    | .flt _ => true
    | .str _ => true
    | .list xs => Val.plainList xs
    | .dict kvs => Val.plainKvs kvs
    | _ => false
  def Val.plainList : List Val → Bool
    | [] => true
    | x :: xs => Val.plain x && Val.plainList xs
  def Val.plainKvs : List (Val × Val) → Bool
    | [] => true
    | (.str _, v) :: rest => Val.plain v && Val.plainKvs rest
    | _ => false
end

def Val.isStr : Val → Bool
  | .str _ => true
  | _ => false

theorem Val.isStr_iff {v : Val} : v.isStr = true ↔ ∃ s, v = .str s := by
  cases v <;> simp [Val.isStr]

theorem Val.plainList_iff (xs : List Val) : Val.plainList xs = true ↔ ∀ x ∈ xs, x.plain = true := by
  induction xs with
  | nil => simp [Val.plainList]
  | cons x xs ih => simp [Val.plainList, ih]

theorem Val.plainKvs_iff (kvs : List (Val × Val)) :
    Val.plainKvs kvs = true ↔ ∀ kv ∈ kvs, kv.1.isStr = true ∧ kv.2.plain = true := by
  induction kvs with
  | nil => simp [Val.plainKvs]
  | cons kv rest ih =>
    obtain ⟨k, v⟩ := kv
    have : Val.plainKvs ((k, v) :: rest) = (k.isStr && v.plain && Val.plainKvs rest) := by cases k <;> rfl
    simp [this, ih, and_assoc]

mutual
  theorem Val.plain_iff_toTree : ∀ (v : Val), v.plain = true ↔ (v.toTree?).isSome = true
    | .none | .bool _ | .int _ | .flt _ | .str _ | .bytes _ | .tuple _ | .digest _ _ _ | .opaque _ => by
        simp [Val.plain, Val.toTree?]
    | .list xs => by
        simp only [Val.plain, Val.toTree?, Option.isSome_map]
        exact Val.plainList_iff_toTrees xs
    | .dict kvs => by
        simp only [Val.plain, Val.toTree?, Option.isSome_map]
        exact Val.plainKvs_iff_toKvs kvs
  theorem Val.plainList_iff_toTrees : ∀ (xs : List Val), Val.plainList xs = true ↔ (Val.toTrees? xs).isSome = true
    | [] => by simp [Val.plainList, Val.toTrees?]
    | x :: xs => by
        have h1 := Val.plain_iff_toTree x
        have h2 := Val.plainList_iff_toTrees xs
        simp only [Val.plainList, Val.toTrees?, Bool.and_eq_true, h1, h2]
        cases Val.toTree? x <;> cases Val.toTrees? xs <;> simp
  theorem Val.plainKvs_iff_toKvs : ∀ (kvs : List (Val × Val)), Val.plainKvs kvs = true ↔ (Val.toKvs? kvs).isSome = true
    | [] => by simp [Val.plainKvs, Val.toKvs?]
    | (k, v) :: rest => by
        have h1 := Val.plain_iff_toTree v
        have h2 := Val.plainKvs_iff_toKvs rest
        cases k <;> simp only [Val.plainKvs, Val.toKvs?, Bool.and_eq_true, h1, h2] <;> try simp
        cases Val.toTree? v <;> cases Val.toKvs? rest <;> simp
end

mutual
  /-- every `Val.ofTree _` is plain; so `hE` of `toBasic_plain` holds of every encryption that returns `Val.ofTree _`, as `encryptS` of the driver's
      environment in Drv/FieldWire.lean does -/
  theorem Val.ofTree_plain : ∀ (t : Tree), (Val.ofTree t).plain = true
    | .null | .bool _ | .int _ | .flt _ | .str _ => rfl
    | .list xs => Val.ofTrees_plain xs
    | .dict kvs => Val.ofKvs_plain kvs
  theorem Val.ofTrees_plain : ∀ (xs : List Tree), Val.plainList (Val.ofTrees xs) = true
    | [] => rfl
    | x :: xs => Bool.and_eq_true_iff.2 ⟨Val.ofTree_plain x, Val.ofTrees_plain xs⟩
  theorem Val.ofKvs_plain : ∀ (kvs : List (String × Tree)), Val.plainKvs (Val.ofKvs kvs) = true
    | [] => rfl
    | (_, v) :: rest => Bool.and_eq_true_iff.2 ⟨Val.ofTree_plain v, Val.ofKvs_plain rest⟩
end

end Cinco

namespace Cinco.Field
open Cinco

mutual
  /-- no custom validator, at any level of the declaration (a custom validator may return any value at all) -/
  def NoCustom : FieldSpec → Bool
    | .mk k _ c => c.isNone && NoCustomKind k
  def NoCustomOpt : Option FieldSpec → Bool
    | none => true
    | some f => NoCustom f
  def NoCustomKind : Kind → Bool
    | .list item => NoCustomOpt item
    | .dict k v => NoCustomOpt k && NoCustomOpt v
    | _ => true
end

mutual
  /-- the shape of what `validate` returns for a declaration without custom validators (`validate_shape`).  Weaker than `Sat`
      (Proofs/Sound.lean): only the constructor of the value, which is all `to_basic` looks at — so it needs neither `EnvOk`
      nor the side conditions of F22 / F25, and mentions no environment.  Not `Config.Shaped` (which slots a configuration
      holds) nor the heap's `Shape`. -/
  def Shape : FieldSpec → Val → Prop
    | .mk k r _, v => (v = .none ∧ r = false) ∨ ShapeKind k v
  def ShapeOpt : Option FieldSpec → Val → Prop
    | none, _ => True
    | some f, v => Shape f v
  def ShapeKind : Kind → Val → Prop
    | .any, _ => True
    | .string _, v => ∃ s, v = .str s
    | .int _ _, v => ∃ i, v = .int i
    | .float _ _, v => ∃ f, v = .flt f
    | .bool, v => ∃ b, v = .bool b
    | .bytes _, v => ∃ b, v = .bytes b
    | .ipv4addr _, v => ∃ s, v = .str s
    | .ipv4net _ _ _, v => ∃ s, v = .str s
    | .hostname _ _, v => ∃ s, v = .str s
    | .filename _ _ _, v => ∃ s, v = .str s
    | .url _, v => ∃ s, v = .str s
    | .challenge _, v => ∃ s d a, v = .digest s d a
    | .secure _, v => ∃ s, v = .str s
    | .list item, v => ∃ xs, (v = .list xs ∨ (v = .tuple xs ∧ untypedItem item = true)) ∧ ∀ x ∈ xs, ShapeOpt item x
    | .dict kf vf, v => ∃ kvs, v = .dict kvs ∧ (∀ kv ∈ kvs, ShapeOpt kf kv.1 ∧ ShapeOpt vf kv.2) ∧
        ((kf.isNone && vf.isNone) = false → (keysD kvs).Nodup)
end

theorem shapeOpt_untyped {item : Option FieldSpec} (hu : untypedItem item = true) (x : Val) : ShapeOpt item x := by
  cases item with
  | none => trivial
  | some f =>
    obtain ⟨k, r, c⟩ := f
    cases k <;> simp [untypedItem, Kind.isAny] at hu
    exact Or.inr trivial

theorem validateKind_shape_step (E : Env) (k : Kind) (req : Bool) (v0 v : Val)
    (ih : ∀ o : Option FieldSpec, o.toList ⊆ k.subs → ∀ v0 v, NoCustomOpt o = true → validateOpt E o v0 = .ok v → ShapeOpt o v)
    (hk : NoCustomKind k = true) (h : validateKind E k req v0 = .ok v) : ShapeKind k v := by
  cases k with
  | any => trivial
  | string o =>
    obtain ⟨t, _, rfl⟩ := Except.map_eq_ok.1 h
    exact ⟨t, rfl⟩
  | int mn mx => exact let ⟨i, hi, _⟩ := intRule_sat (E := E) (req := req) h; ⟨i, hi⟩
  | float mn mx => exact let ⟨x, hx, _⟩ := floatRule_sat (req := req) h; ⟨x, hx⟩
  | bool => exact boolRule_shape h
  | bytes _ => exact bytesRule_shape h
  | ipv4addr o => exact let ⟨s, hs, _⟩ := addrRule_sat (E := E) h; ⟨s, hs⟩
  | ipv4net o mn mx => exact let ⟨s, _, _, hs, _⟩ := netRule_sat (E := E) h; ⟨s, hs⟩
  | hostname o a => exact let ⟨s, hs, _⟩ := hostRule_sat (E := E) h; ⟨s, hs⟩
  | filename o ex sd =>
    -- `fileRule_sat` asks `EnvOk` of `os.path`, which the shape does not need
    obtain ⟨t, _, h2⟩ := bind_ok h
    (repeat' split at h2) <;> cases h2 <;> exact ⟨_, rfl⟩
  | url o => exact let ⟨s, hs, _⟩ := urlRule_sat h; ⟨s, hs⟩
  | challenge alg => exact challengeRule_shape h
  | secure m => exact let ⟨s, hs, _⟩ := secureRule_sat (E := E) (m := m) h; ⟨s, hs⟩
  | list item =>
    obtain ⟨ys, _, hw⟩ := validateKind_list_result (fun x y => ih item (List.Subset.refl _) x y hk) h
    split at hw
    next hu => exact ⟨ys, hw.imp id (fun h1 => ⟨h1, hu⟩), fun x _ => shapeOpt_untyped hu x⟩
    next => exact ⟨ys, Or.inl hw.1, hw.2⟩
  | dict kf vf =>
    simp only [NoCustomKind, Bool.and_eq_true] at hk
    obtain ⟨kvs, hw, _, hall, hnd⟩ := validateKind_dict_result (fun x y => ih kf (List.subset_append_left _ _) x y hk.1)
      (fun x y => ih vf (List.subset_append_right _ _) x y hk.2) h
    exact ⟨kvs, hw, hall, hnd⟩

theorem validate_shape (E : Env) : ∀ (f : FieldSpec) (v0 v : Val), NoCustom f = true → validate E f v0 = .ok v → Shape f v := by
  refine FieldSpec.inductOpt (Q := fun o => ∀ v0 v, NoCustomOpt o = true → validateOpt E o v0 = .ok v → ShapeOpt o v)
    (fun _ _ _ _ => trivial) (fun _ h => h) fun k req c ih v0 v hnc h => ?_
  simp only [NoCustom, Bool.and_eq_true, Option.isNone_iff_eq_none] at hnc
  obtain ⟨rfl, hk⟩ := hnc
  rcases validate_inv_nc h with ⟨_, hr, hw⟩ | ⟨_, hk'⟩
  · exact Or.inl ⟨hw, hr⟩
  · exact Or.inr (validateKind_shape_step E k req v0 v ih hk hk')

theorem validateOpt_shape (E : Env) : ∀ (o : Option FieldSpec) (v0 v : Val), NoCustomOpt o = true →
    validateOpt E o v0 = .ok v → ShapeOpt o v
  | none => fun _ _ _ _ => trivial
  | some f => validate_shape E f

theorem validateKind_shape (E : Env) : ∀ (k : Kind) (req : Bool) (v0 v : Val), NoCustomKind k = true →
    validateKind E k req v0 = .ok v → ShapeKind k v :=
  fun k req v0 v => validateKind_shape_step E k req v0 v (fun o _ => validateOpt_shape E o)

/-- kinds whose validation results are written by `to_basic` as text: usable as the key field of a typed dict -/
def Kind.strKey : Kind → Bool
  | .string _ => true
  | .ipv4addr _ => true
  | .ipv4net _ _ _ => true
  | .hostname _ _ => true
  | .filename _ _ _ => true
  | .url _ => true
  | .bytes _ => true
  | _ => false

/-- a key field whose written form is always text; *required*, because a field that is not required accepts the key `None`
    and writes it as it is -/
def TypedKey : Option FieldSpec → Bool
  | some (.mk k r c) => r && c.isNone && k.strKey
  | none => false

mutual
  /-- declarations for which `to_basic` is shown to write plain data (`toBasic_plain`) -/
  def Typed : FieldSpec → Bool
    | .mk k _ c => c.isNone && TypedKind k
  def TypedOpt : Option FieldSpec → Bool
    | none => false
    | some f => Typed f
  def TypedKind : Kind → Bool
    | .any => false
    | .list item => TypedOpt item
    | .dict kf vf => TypedKey kf && TypedOpt vf
    | _ => true
end

theorem typedKey_noCustom (o : Option FieldSpec) (h : TypedKey o = true) : NoCustomOpt o = true := by
  cases o with
  | none => simp [TypedKey] at h
  | some f =>
    obtain ⟨k, r, c⟩ := f
    simp only [TypedKey, Bool.and_eq_true] at h
    cases k <;> simp [Kind.strKey] at h <;> simp [NoCustomOpt, NoCustom, NoCustomKind, h]

theorem typedKind_noCustom_step (k : Kind)
    (ih : ∀ o : Option FieldSpec, o.toList ⊆ k.subs → TypedOpt o = true → NoCustomOpt o = true)
    (h : TypedKind k = true) : NoCustomKind k = true := by
  cases k with
  | list item => exact ih item (List.Subset.refl _) h
  | dict kf vf =>
    simp only [TypedKind, Bool.and_eq_true] at h
    simp only [NoCustomKind, Bool.and_eq_true]
    exact ⟨typedKey_noCustom kf h.1, ih vf (List.subset_append_right _ _) h.2⟩
  | _ => rfl

theorem typed_noCustom : ∀ (f : FieldSpec), Typed f = true → NoCustom f = true := by
  refine FieldSpec.inductOpt (Q := fun o => TypedOpt o = true → NoCustomOpt o = true) (fun _ => rfl) (fun _ h => h)
    fun k r c ih h => ?_
  simp only [Typed, Bool.and_eq_true] at h
  simp only [NoCustom, Bool.and_eq_true]
  exact ⟨h.1, typedKind_noCustom_step k ih h.2⟩

theorem typedOpt_noCustom : ∀ (o : Option FieldSpec), TypedOpt o = true → NoCustomOpt o = true
  | none => fun _ => rfl
  | some f => typed_noCustom f

theorem typedKind_noCustom : ∀ (k : Kind), TypedKind k = true → NoCustomKind k = true :=
  fun k => typedKind_noCustom_step k (fun o _ => typedOpt_noCustom o)

theorem toBasicKind_none (E : CodecEnv) (k : Kind) : toBasicKind E k .none = .ok .none := by
  cases k <;> rfl

theorem toBasic_none (E : CodecEnv) (f : FieldSpec) : toBasic E f .none = .ok .none := by
  obtain ⟨k, r, c⟩ := f
  exact toBasicKind_none E k

theorem typedKey_toBasic {E : CodecEnv} {o : Option FieldSpec} {k b : Val} (h : TypedKey o = true) (hs : ShapeOpt o k)
    (hb : toBasicOpt E o k = .ok b) : b.isStr = true := by
  cases o with
  | none => simp [TypedKey] at h
  | some f =>
    obtain ⟨kk, r, c⟩ := f
    simp only [TypedKey, Bool.and_eq_true] at h
    obtain ⟨⟨hr, _⟩, hk⟩ := h
    subst hr
    simp only [toBasicOpt, toBasic] at hb
    rcases hs with ⟨_, hf⟩ | hs
    · cases hf
    · -- every text-like kind holds text and writes it as it is; only `bytes` differs (`encodeBytes` writes text)
      cases kk <;> simp [Kind.strKey] at hk <;> simp only [ShapeKind] at hs <;> obtain ⟨s, rfl⟩ := hs <;>
        simp only [toBasicKind, Except.ok.injEq] at hb <;> subst hb <;> rfl

theorem toBasicKind_plain_step (E : CodecEnv) (hE : ∀ m s r, E.encryptS m s = some r → r.plain = true) (k : Kind) (v b : Val)
    (ih : ∀ o : Option FieldSpec, o.toList ⊆ k.subs → ∀ v b, TypedOpt o = true → (v = .none ∨ ShapeOpt o v) →
      toBasicOpt E o v = .ok b → b.plain = true)
    (ht : TypedKind k = true) (hs : v = .none ∨ ShapeKind k v) (h : toBasicKind E k v = .ok b) : b.plain = true := by
  rcases hs with rfl | hs
  · rw [toBasicKind_none] at h; cases h; rfl
  cases k with
  | any => cases ht
  | bytes enc => obtain ⟨s, rfl⟩ := hs; cases h; rfl
  | challenge alg =>
    obtain ⟨s, d, a, rfl⟩ := hs
    cases h
    simp [digestToBasic, Val.plain, Val.plainKvs]
  | secure m =>
    obtain ⟨s, rfl⟩ := hs
    simp only [toBasicKind] at h
    split at h
    · cases h; rfl
    · split at h <;> cases h
      exact hE m s _ ‹_›
  | list item =>
    obtain ⟨xs, hv, hall⟩ := hs
    have hm : (mapR (fun x => toBasicOpt E item x) xs).map Val.list = .ok b := by
      rcases hv with rfl | ⟨rfl, _⟩ <;> simpa only [toBasicKind] using h
    obtain ⟨bs, hr, rfl⟩ := Except.map_eq_ok.1 hm
    refine (Val.plainList_iff bs).2 fun b' hb' => ?_
    obtain ⟨x, hx, hxb⟩ := mapR_results hr b' hb'
    exact ih item (List.Subset.refl _) x b' ht (Or.inr (hall x hx)) hxb
  | dict kf vf =>
    simp only [TypedKind, Bool.and_eq_true] at ht
    obtain ⟨kvs, rfl, hall, _⟩ := hs
    have hnn : (kf.isNone && vf.isNone) = false := by
      cases kf with
      | none => simp [TypedKey] at ht
      | some _ => rfl
    simp only [toBasicKind, hnn, Bool.false_eq_true, if_false] at h
    obtain ⟨es, hr, rfl⟩ := Except.map_eq_ok.1 h
    refine (Val.plainKvs_iff _).2 (buildDict_forall (P := fun k => k.isStr = true) (Q := fun v => v.plain = true) ?_)
    intro kv' hkv'
    obtain ⟨kv, hkv, h1, h2⟩ := mapPairs_results hr kv' hkv'
    exact ⟨typedKey_toBasic ht.1 (hall kv hkv).1 h1,
      ih vf (List.subset_append_right _ _) _ _ ht.2 (Or.inr (hall kv hkv).2) h2⟩
  | _ =>
    -- stored as they are: a string, a number or a boolean
    obtain ⟨s, rfl⟩ := hs
    cases h
    rfl

theorem toBasic_plain_of_shape (E : CodecEnv) (hE : ∀ m s r, E.encryptS m s = some r → r.plain = true) :
    ∀ (f : FieldSpec) (v b : Val), Typed f = true → (v = .none ∨ Shape f v) → toBasic E f v = .ok b → b.plain = true := by
  refine FieldSpec.inductOpt (Q := fun o => ∀ v b, TypedOpt o = true → (v = Val.none ∨ ShapeOpt o v) → toBasicOpt E o v = .ok b →
    b.plain = true) (fun _ _ ht => by cases ht) (fun _ h => h) fun k r c ih v b ht hs h => ?_
  simp only [Typed, Bool.and_eq_true] at ht
  exact toBasicKind_plain_step E hE k v b ih ht.2 (hs.elim Or.inl fun h => h.elim (fun h => Or.inl h.1) Or.inr) h

theorem toBasicOpt_plain_of_shape (E : CodecEnv) (hE : ∀ m s r, E.encryptS m s = some r → r.plain = true) :
    ∀ (o : Option FieldSpec) (v b : Val), TypedOpt o = true → (v = .none ∨ ShapeOpt o v) → toBasicOpt E o v = .ok b →
      b.plain = true
  | none => fun _ _ ht => by cases ht
  | some f => toBasic_plain_of_shape E hE f

theorem toBasicKind_plain_of_shape (E : CodecEnv) (hE : ∀ m s r, E.encryptS m s = some r → r.plain = true) :
    ∀ (k : Kind) (v b : Val), TypedKind k = true → (v = .none ∨ ShapeKind k v) → toBasicKind E k v = .ok b →
      b.plain = true :=
  fun k v b => toBasicKind_plain_step E hE k v b (fun o _ => toBasicOpt_plain_of_shape E hE o)

/-- **What `to_basic` writes is plain data**: for a `Typed` declaration (no `AnyField`, no untyped container, no custom
    validator, text-like required dict keys) and a held value that is a validation result of the field or `None`,
    whatever `to_basic` returns is plain data — provided encryption returns plain data (`hE`). -/
theorem toBasic_plain (E : CodecEnv) (hE : ∀ m s r, E.encryptS m s = some r → r.plain = true)
    (fs : FieldSpec) (hT : Typed fs = true) (v : Val) (hv : v = .none ∨ ∃ v0, validate E.toEnv fs v0 = .ok v)
    (b : Val) (hb : toBasic E fs v = .ok b) : b.plain = true := by
  refine toBasic_plain_of_shape E hE fs v b hT ?_ hb
  rcases hv with hv | ⟨v0, hv0⟩
  · exact Or.inl hv
  · exact Or.inr (validate_shape E.toEnv fs v0 v (typed_noCustom fs hT) hv0)

/-- the exact form of the codec property: the held value itself comes back -/
def Exact (E : CodecEnv) (fs : FieldSpec) (v : Val) : Prop :=
  ∀ b, toBasic E fs v = .ok b → (toPython E fs b).bind (validate E.toEnv fs) = .ok v

theorem exact_of_inverse {E : CodecEnv} {fs : FieldSpec} {v : Val}
    (hinv : ∀ b, toBasic E fs v = .ok b → toPython E fs b = .ok v) (hfix : validate E.toEnv fs v = .ok v) : Exact E fs v :=
  fun b hb => by rw [hinv b hb]; exact hfix

/-- kinds stored as they are -/
def Kind.idCoded : Kind → Bool
  | .any => true
  | .string _ => true
  | .int _ _ => true
  | .float _ _ => true
  | .bool => true
  | .ipv4addr _ => true
  | .ipv4net _ _ _ => true
  | .hostname _ _ => true
  | .filename _ _ _ => true
  | .url _ => true
  | _ => false

theorem exact_idCoded {E : CodecEnv} {k : Kind} {r : Bool} {c : Option String} {v : Val} (hk : k.idCoded = true)
    (hfix : validate E.toEnv (.mk k r c) v = .ok v) : Exact E (.mk k r c) v :=
  exact_of_inverse (fun b hb => by cases k <;> first | (cases hk; done) | (cases hb; rfl)) hfix

theorem exact_bytes {E : CodecEnv} {enc : Enc} {r : Bool} {c : Option String} {v : Val}
    (hfix : validate E.toEnv (.mk (.bytes enc) r c) v = .ok v) : Exact E (.mk (.bytes enc) r c) v :=
  exact_of_inverse (fun b hb => by
    cases v with
    | none => cases hb; rfl
    | bytes x =>
      -- the custom validator plays no part in `to_basic` / `to_python`
      have h := C05.bytes_codec E enc r x
      rw [show toBasic E (.mk (.bytes enc) r none) (.bytes x) = .ok b from hb] at h
      exact h
    | _ => cases hb) hfix

/-- digests of the field's own algorithm (a digest of another algorithm is a fixed point of validation too, but comes
    back relabelled with the field's algorithm: finding F23) -/
theorem exact_challenge {E : CodecEnv} {alg : String} {r : Bool} {c : Option String} {v : Val}
    (hfix : validate E.toEnv (.mk (.challenge alg) r c) v = .ok v) (hown : ∀ s d a, v = .digest s d a → a = alg) :
    Exact E (.mk (.challenge alg) r c) v :=
  exact_of_inverse (fun b hb => by
    cases v with
    | none => cases hb; rfl
    | digest s d a =>
      cases hown s d a rfl
      have h := C05.challenge_codec E alg r s d
      rw [show toBasic E (.mk (.challenge alg) r none) (.digest s d alg) = .ok b from hb] at h
      exact h
    | _ => cases hb) hfix

theorem secure_accepted_shape {E : Env} {m : String} {r : Bool} {c : Option String} {v w : Val}
    (h : validate E (.mk (.secure m) r c) v = .ok w) : v = .none ∨ ∃ s, v = .str s ∧ (r && s.isEmpty) = false := by
  rcases validate_inv h with ⟨h1, _⟩ | ⟨_, w', hk, _⟩
  · exact Or.inl h1
  · simp only [validateKind] at hk
    cases v with
    | str s =>
      simp only [secureRule] at hk
      by_cases hc : (r && s.isEmpty) = true
      · rw [if_pos hc] at hk; cases hk
      · exact Or.inr ⟨s, rfl, Bool.eq_false_iff.2 hc⟩
    | _ => simp [secureRule] at hk

/-- secrets, except the empty one (which is written as `None` and comes back as `None`: `codecOk_secure_empty`) -/
theorem exact_secure {E : CodecEnv} {m : String} {r : Bool} {c : Option String} {v : Val}
    (hS : ∀ m s r, s ≠ [] → E.encryptS m s = some r → E.decryptS r = some (some s)) (hN : E.decryptS .none = some none)
    (hfix : validate E.toEnv (.mk (.secure m) r c) v = .ok v) (hne : v ≠ .str []) : Exact E (.mk (.secure m) r c) v :=
  exact_of_inverse (fun b hb => by
    rcases secure_accepted_shape hfix with rfl | ⟨s, rfl, _⟩
    · cases hb
      simp only [toPython, toPythonKind, hN]
    · cases s with
      | nil => exact absurd rfl hne
      | cons a l =>
        simp only [toBasic, toBasicKind, List.isEmpty_cons, Bool.false_eq_true, if_false] at hb
        split at hb <;> cases hb
        simp only [toPython, toPythonKind, hS m (a :: l) _ (by simp) ‹_›]) hfix

theorem toBasicOpt_untyped {E : CodecEnv} {item : Option FieldSpec} (hu : untypedItem item = true) (x : Val) :
    toBasicOpt E item x = .ok x := by
  cases item with
  | none => rfl
  | some f =>
    obtain ⟨k, r, c⟩ := f
    simp only [untypedItem] at hu
    cases k <;> simp [Kind.isAny] at hu
    simp [toBasicOpt, toBasic, toBasicKind]

theorem decodeItems_untyped {E : CodecEnv} {item : Option FieldSpec} (hu : untypedItem item = true) (v : Val) :
    decodeItems E item v = none := by
  cases item with
  | none => rfl
  | some f => obtain ⟨k, r, c⟩ := f; simp only [untypedItem] at hu; simp [decodeItems, hu]

/-- `hnt`: `to_basic` writes a tuple as a list, and nothing turns it back -/
theorem exact_list_untyped {E : CodecEnv} {item : Option FieldSpec} {r : Bool} {c : Option String} {v : Val}
    (hu : untypedItem item = true) (hfix : validate E.toEnv (.mk (.list item) r c) v = .ok v) (hnt : ∀ xs, v ≠ .tuple xs) :
    Exact E (.mk (.list item) r c) v :=
  exact_of_inverse (fun b hb => by
    have hb' : b = v := by
      cases v with
      | none => cases hb; rfl
      | list xs =>
        simp only [toBasic, toBasicKind, mapR_fixed_iff.2 (fun x _ => toBasicOpt_untyped hu x)] at hb
        cases hb
        rfl
      | tuple xs => exact absurd rfl (hnt xs)
      | _ => cases hb
    subst hb'
    simp only [toPython, toPythonKind, decodeItems_untyped hu]) hfix

theorem toPythonKind_list_typed {E : CodecEnv} {k : Kind} {r : Bool} {c : Option String} (hany : k.isAny = false)
    {bs ds xs : List Val} (hg : mapR (fun x => toPython E (.mk k r c) x) bs = .ok ds)
    (hh : mapR (fun x => validate E.toEnv (.mk k r c) x) ds = .ok xs) :
    toPythonKind E (.list (some (.mk k r c))) (.list bs) = .ok (.list xs) := by
  simp [toPythonKind, decodeItems, validateItems, hany, hg, hh, Except.map]

theorem list_fixed_shape {E : Env} {item : Option FieldSpec} {req : Bool} {v : Val} (hu : untypedItem item = false)
    (hfix : validate E (.mk (.list item) req none) v = .ok v) :
    v = .none ∨ ∃ xs, v = .list xs ∧ ∀ x ∈ xs, validateOpt E item x = .ok x := by
  rcases validate_inv_nc hfix with ⟨h1, _⟩ | ⟨_, hk⟩
  · exact Or.inl h1
  · obtain ⟨xs, hv, _, hw⟩ := validateKind_list_eq_ok.1 hk
    rw [if_neg (by simp [hu])] at hw
    obtain ⟨ys, hys, hw⟩ := hw
    rcases hv with hv | hv
    · rw [hv] at hw
      cases hw
      exact Or.inr ⟨xs, hv, mapR_fixed_iff.1 hys⟩
    · rw [hv] at hw; cases hw

theorem exact_list_typed {E : CodecEnv} {item : Option FieldSpec} {req : Bool} {v : Val} (hu : untypedItem item = false)
    (hfix : validate E.toEnv (.mk (.list item) req none) v = .ok v) (hne : v ≠ .none)
    (hitems : ∀ xs, v = .list xs → ∀ x ∈ xs, validateOpt E.toEnv item x = .ok x →
      ∀ b, toBasicOpt E item x = .ok b → (toPythonOpt E item b).bind (fun y => validateOpt E.toEnv item y) = .ok x) :
    Exact E (.mk (.list item) req none) v :=
  exact_of_inverse (fun b hb => by
    rcases list_fixed_shape hu hfix with h0 | ⟨xs, rfl, hfx⟩
    · exact absurd h0 hne
    · cases item with
      | none => simp [untypedItem] at hu
      | some f =>
        obtain ⟨k, r, c⟩ := f
        obtain ⟨bs, hm, rfl⟩ := Except.map_eq_ok.1 hb
        obtain ⟨ds, hg, hh⟩ := mapR_pipeline (g := fun x => toPython E (.mk k r c) x)
          (h := fun x => validate E.toEnv (.mk k r c) x) (fun x hx b hxb => hitems xs rfl x hx (hfx x hx) b hxb) hm
        exact toPythonKind_list_typed hu hg hh) hfix

theorem toPython_list_none {E : CodecEnv} {item : Option FieldSpec} (hu : untypedItem item = false) (r : Bool)
    (c : Option String) : toPython E (.mk (.list item) r c) .none = .ok (.list []) := by
  cases item with
  | none => simp [untypedItem] at hu
  | some f =>
    obtain ⟨k, r', c'⟩ := f
    simp only [untypedItem] at hu
    simp [toPython, toPythonKind, decodeItems, hu, iterForList, validateItems, mapR, Except.map]

theorem dict_fixed_shape {E : Env} {kf vf : Option FieldSpec} {req : Bool} {v : Val} (hnn : (kf.isNone && vf.isNone) = false)
    (hfix : validate E (.mk (.dict kf vf) req none) v = .ok v) :
    v = .none ∨ ∃ kvs, v = .dict kvs ∧ (keysD kvs).Nodup ∧
      mapEntries (fun x => validateOpt E kf x) (fun x => validateOpt E vf x) kvs = .ok kvs := by
  rcases validate_inv_nc hfix with ⟨h1, _⟩ | ⟨_, hk⟩
  · exact Or.inl h1
  · obtain ⟨kvs, hv, _, hw⟩ := validateKind_dict_eq_ok.1 hk
    rw [if_neg (by simp [hnn])] at hw
    obtain ⟨es, hm, hw⟩ := hw
    rw [hv] at hw
    simp only [Val.dict.injEq] at hw
    have hlen : (buildDict es).length = es.length := by rw [← hw, mapEntries_length hm]
    have hes : es = kvs := by rw [hw]; exact (buildDict_eq_of_length es hlen).symm
    subst hes
    exact Or.inr ⟨es, hv, by rw [hw]; exact buildDict_nodup es, hm⟩

theorem toPythonKind_dict_typed {E : CodecEnv} {kf vf : Option FieldSpec} (hnn : (kf.isNone && vf.isNone) = false)
    {bs ds es : List (Val × Val)}
    (h1 : mapPairs (fun x => toPythonOpt E kf x) (fun x => toPythonOpt E vf x) bs = .ok ds)
    (h2 : mapEntries (fun x => validateOpt E.toEnv kf x) (fun x => validateOpt E.toEnv vf x) (buildDict ds) = .ok es) :
    toPythonKind E (.dict kf vf) (.dict bs) = .ok (.dict (buildDict es)) := by
  simp [toPythonKind, hnn, h1, h2, Except.map]

theorem exact_dict_typed {E : CodecEnv} {kf vf : Option FieldSpec} {req : Bool} {v : Val}
    (hnn : (kf.isNone && vf.isNone) = false)
    (hfix : validate E.toEnv (.mk (.dict kf vf) req none) v = .ok v) (hne : v ≠ .none)
    (hent : ∀ kvs, v = .dict kvs → ∀ kv ∈ kvs,
      (validateOpt E.toEnv kf kv.1 = .ok kv.1 → ∀ b, toBasicOpt E kf kv.1 = .ok b →
        (toPythonOpt E kf b).bind (fun y => validateOpt E.toEnv kf y) = .ok kv.1) ∧
      (validateOpt E.toEnv vf kv.2 = .ok kv.2 → ∀ b, toBasicOpt E vf kv.2 = .ok b →
        (toPythonOpt E vf b).bind (fun y => validateOpt E.toEnv vf y) = .ok kv.2)) :
    Exact E (.mk (.dict kf vf) req none) v :=
  exact_of_inverse (fun b hb => by
    rcases dict_fixed_shape hnn hfix with h0 | ⟨kvs, rfl, hnd, hme⟩
    · exact absurd h0 hne
    · simp only [toBasic, toBasicKind, hnn, Bool.false_eq_true, if_false] at hb
      obtain ⟨bs, hm, rfl⟩ := Except.map_eq_ok.1 hb
      have hfixed := mapEntries_fixed_iff.1 hme
      rw [mapPairs_eq_mapEntries] at hm
      obtain ⟨ds, hg, hh⟩ := mapEntries_pipeline (gk := fun x => toPythonOpt E kf x) (gv := fun x => toPythonOpt E vf x)
        (hk := fun x => validateOpt E.toEnv kf x) (hv := fun x => validateOpt E.toEnv vf x)
        (fun kv hkv => ⟨(hent kvs rfl kv hkv).1 (hfixed kv hkv).1, (hent kvs rfl kv hkv).2 (hfixed kv hkv).2⟩) hm
      -- each stage maps its keys back to the keys of the stage before, so they stay pairwise distinct,
      -- and with pairwise distinct keys `buildDict` changes nothing, at any of the three stages
      have hnds := mapR_nodup (mapEntries_keys hh) hnd
      rw [buildDict_of_nodup bs (mapR_nodup (mapEntries_keys hg) hnds)]
      rw [← buildDict_of_nodup ds hnds] at hh
      rw [← buildDict_of_nodup kvs hnd]
      exact toPythonKind_dict_typed hnn ((mapPairs_eq_mapEntries _ _ bs).trans hg) hh) hfix

theorem exact_dict_untyped {E : CodecEnv} {kf vf : Option FieldSpec} {r : Bool} {c : Option String} {v : Val}
    (hnn : (kf.isNone && vf.isNone) = true) (hfix : validate E.toEnv (.mk (.dict kf vf) r c) v = .ok v) :
    Exact E (.mk (.dict kf vf) r c) v :=
  exact_of_inverse (fun b hb => by
    have hb' : b = v := by
      cases v <;> simp [toBasic, toBasicKind, hnn] at hb <;> exact hb.symm
    subst hb'
    simp only [toPython, toPythonKind, hnn, if_true]) hfix

theorem toPython_dict_none {E : CodecEnv} {kf vf : Option FieldSpec} (hnn : (kf.isNone && vf.isNone) = false) (r : Bool)
    (c : Option String) : toPython E (.mk (.dict kf vf) r c) .none = .ok (.dict []) := by
  simp [toPython, toPythonKind, hnn, iterForDict, Val.truthy, mapEntries, Except.map, buildDict]

/-- the containers for which `to_python` rebuilds the validating proxy -/
def Kind.typedContainer : Kind → Bool
  | .list item => !untypedItem item
  | .dict kf vf => !(kf.isNone && vf.isNone)
  | _ => false

mutual
  /-- the declarations covered by `codecOk_of_supported`: every kind, with any options, with or without custom validator —
      except that a *typed* list or dict field must not itself carry a custom validator (its fixed points would say nothing
      about its items), at every nesting level -/
  def Supported : FieldSpec → Bool
    | .mk k _ c => (c.isNone || !k.typedContainer) && SupportedKind k
  def SupportedOpt : Option FieldSpec → Bool
    | none => true
    | some f => Supported f
  def SupportedKind : Kind → Bool
    | .list item => SupportedOpt item
    | .dict kf vf => SupportedOpt kf && SupportedOpt vf
    | _ => true
end

mutual
  /-- the held values that survive save + reload *exactly*: everything, except
      * a digest labelled with another algorithm than the field's (finding F23),
      * the empty secret (written as `None`),
      * `None` under a typed list / dict field (loads as `[]` / `{}`),
      * a tuple under an untyped list field (written as a list),
      at every nesting level.  At top level the second and third are the normalisations `LeafSame` allows (`TopCanon`); inside a
      list or dict they are not. -/
  def Canon : FieldSpec → Val → Prop
    | .mk k _ _, v => CanonKind k v
  def CanonOpt : Option FieldSpec → Val → Prop
    | none, _ => True
    | some f, v => Canon f v
  def CanonKind : Kind → Val → Prop
    | .challenge alg, v => ∀ s d a, v = .digest s d a → a = alg
    | .secure _, v => v ≠ .str []
    | .list item, v => (untypedItem item = true ∧ ∀ xs, v ≠ .tuple xs) ∨
        (untypedItem item = false ∧ v ≠ .none ∧ ∀ xs, v = .list xs → ∀ x ∈ xs, CanonOpt item x)
    | .dict kf vf, v => (kf.isNone && vf.isNone) = true ∨
        (v ≠ .none ∧ ∀ kvs, v = .dict kvs → ∀ kv ∈ kvs, CanonOpt kf kv.1 ∧ CanonOpt vf kv.2)
    | _, _ => True
end

theorem exact_codec_step (E : CodecEnv)
    (hS : ∀ m s r, s ≠ [] → E.encryptS m s = some r → E.decryptS r = some (some s)) (hN : E.decryptS .none = some none)
    (k : Kind) (req : Bool) (c : Option String) (v : Val)
    (ih : ∀ o : Option FieldSpec, o.toList ⊆ k.subs → ∀ v, SupportedOpt o = true → validateOpt E.toEnv o v = .ok v →
      CanonOpt o v → ∀ b, toBasicOpt E o v = .ok b → (toPythonOpt E o b).bind (fun y => validateOpt E.toEnv o y) = .ok v)
    (hsup : Supported (.mk k req c) = true) (hfix : validate E.toEnv (.mk k req c) v = .ok v) (hcan : CanonKind k v) :
    Exact E (.mk k req c) v := by
  cases k with
  | list item =>
    cases hu : untypedItem item with
    | true =>
      rcases hcan with ⟨_, hnt⟩ | ⟨hu', _⟩
      · exact exact_list_untyped hu hfix hnt
      · rw [hu] at hu'; cases hu'
    | false =>
      simp only [Supported, SupportedKind, Kind.typedContainer, hu, Bool.and_eq_true] at hsup
      obtain ⟨hc, hitem⟩ := hsup
      have hc : c = none := by simpa using hc
      subst hc
      rcases hcan with ⟨h1, _⟩ | ⟨_, hne, hall⟩
      · rw [hu] at h1; cases h1
      · exact exact_list_typed hu hfix hne
          (fun xs hxs x hx hvx => ih item (List.Subset.refl _) x hitem hvx (hall xs hxs x hx))
  | dict kf vf =>
    cases hnn : (kf.isNone && vf.isNone) with
    | true => exact exact_dict_untyped hnn hfix
    | false =>
      simp only [Supported, SupportedKind, Kind.typedContainer, hnn, Bool.and_eq_true] at hsup
      obtain ⟨hc, hkf, hvf⟩ := hsup
      have hc : c = none := by simpa using hc
      subst hc
      rcases hcan with h1 | ⟨hne, hall⟩
      · rw [hnn] at h1; cases h1
      · exact exact_dict_typed hnn hfix hne
          (fun kvs hkvs kv hkv =>
            ⟨fun hvk => ih kf (List.subset_append_left _ _) kv.1 hkf hvk (hall kvs hkvs kv hkv).1,
             fun hvv => ih vf (List.subset_append_right _ _) kv.2 hvf hvv (hall kvs hkvs kv hkv).2⟩)
  | bytes enc => exact exact_bytes hfix
  | challenge alg => exact exact_challenge hfix hcan
  | secure m => exact exact_secure hS hN hfix hcan
  | _ => exact exact_idCoded rfl hfix

/-- **Exact survival**, for every supported declaration, every fixed point of its validation, at every nesting depth. -/
theorem exact_codec (E : CodecEnv)
    (hS : ∀ m s r, s ≠ [] → E.encryptS m s = some r → E.decryptS r = some (some s)) (hN : E.decryptS .none = some none) :
    ∀ (fs : FieldSpec) (v : Val), Supported fs = true → validate E.toEnv fs v = .ok v → Canon fs v → Exact E fs v := by
  refine FieldSpec.inductOpt (Q := fun o => ∀ v, SupportedOpt o = true → validateOpt E.toEnv o v = .ok v → CanonOpt o v →
    ∀ b, toBasicOpt E o v = .ok b → (toPythonOpt E o b).bind (fun y => validateOpt E.toEnv o y) = .ok v)
    (fun _ _ _ _ _ hb => by cases hb; rfl) (fun _ h => h) fun k req c ih v => exact_codec_step E hS hN k req c v ih

theorem exactOpt_codec (E : CodecEnv)
    (hS : ∀ m s r, s ≠ [] → E.encryptS m s = some r → E.decryptS r = some (some s)) (hN : E.decryptS .none = some none) :
    ∀ (o : Option FieldSpec) (v : Val), SupportedOpt o = true → validateOpt E.toEnv o v = .ok v → CanonOpt o v →
      ∀ b, toBasicOpt E o v = .ok b → (toPythonOpt E o b).bind (fun y => validateOpt E.toEnv o y) = .ok v
  | none => fun _ _ _ _ _ hb => by cases hb; rfl
  | some f => exact_codec E hS hN f

/-- what `codecOk_of_supported` asks of the held value besides being a fixed point of validation: it survives exactly
    (`Canon`), or it is one of the two normal forms that `LeafSame` lets through at top level -/
def TopCanon (fs : FieldSpec) (v : Val) : Prop :=
  Canon fs v ∨ (v = .none ∧ fs.kind.typedContainer = true) ∨ (v = .str [] ∧ ∃ m, fs.kind = .secure m)

/-- kinds under which every fixed point survives exactly -/
def Kind.leafy : Kind → Bool
  | .bytes _ => true
  | k => k.idCoded

def FlatOpt : Option FieldSpec → Bool
  | none => true
  | some (.mk k _ _) => k.leafy

/-- declarations for which *every* fixed point of validation satisfies `TopCanon` (so that `codecOk_of_flat` has no condition on
    the held value): identity-coded kinds, bytes, secrets; typed lists and dicts whose item / key / value fields are of
    identity-coded kinds or bytes (and which carry no custom validator themselves); untyped dicts.  Not: challenges (a digest
    of a foreign algorithm is a fixed point), untyped lists (a tuple is a fixed point), containers of containers or of secrets
    (`None` / the empty secret inside a container are fixed points that come back changed). -/
def Flat : FieldSpec → Bool
  | .mk (.list item) _ c => !untypedItem item && c.isNone && FlatOpt item
  | .mk (.dict kf vf) _ c => (kf.isNone && vf.isNone) || (c.isNone && FlatOpt kf && FlatOpt vf)
  | .mk (.challenge _) _ _ => false
  | .mk _ _ _ => true

theorem leafy_props {k : Kind} (h : k.leafy = true) : k.typedContainer = false ∧ SupportedKind k = true ∧ ∀ v, CanonKind k v := by
  cases k <;> simp [Kind.leafy, Kind.idCoded] at h <;> simp [Kind.typedContainer, SupportedKind, CanonKind]

theorem flatOpt_props {o : Option FieldSpec} (h : FlatOpt o = true) : SupportedOpt o = true ∧ ∀ v, CanonOpt o v := by
  cases o with
  | none => exact ⟨rfl, fun _ => trivial⟩
  | some f =>
    obtain ⟨k, r, c⟩ := f
    obtain ⟨h1, h2, h3⟩ := leafy_props h
    refine ⟨?_, fun v => ?_⟩
    · simp [SupportedOpt, Supported, h1, h2]
    · simp only [CanonOpt, Canon]; exact h3 v

theorem flat_supported {fs : FieldSpec} (h : Flat fs = true) : Supported fs = true := by
  obtain ⟨k, r, c⟩ := fs
  cases k with
  | list item =>
    simp only [Flat, Bool.and_eq_true] at h
    obtain ⟨⟨_, hc⟩, hi⟩ := h
    simp [Supported, SupportedKind, hc, (flatOpt_props hi).1]
  | dict kf vf =>
    simp only [Flat, Bool.or_eq_true, Bool.and_eq_true] at h
    rcases h with h | ⟨⟨hc, h1⟩, h2⟩
    · simp only [Option.isNone_iff_eq_none] at h
      obtain ⟨rfl, rfl⟩ := h
      simp [Supported, SupportedKind, SupportedOpt, Kind.typedContainer]
    · simp [Supported, SupportedKind, hc, (flatOpt_props h1).1, (flatOpt_props h2).1]
  | challenge alg => simp [Flat] at h
  | _ => simp [Supported, SupportedKind, Kind.typedContainer]

theorem flat_topCanon {fs : FieldSpec} (h : Flat fs = true) (v : Val) : TopCanon fs v := by
  obtain ⟨k, r, c⟩ := fs
  cases k with
  | list item =>
    simp only [Flat, Bool.and_eq_true, Bool.not_eq_true'] at h
    obtain ⟨⟨hu, _⟩, hi⟩ := h
    by_cases hv : v = .none
    · exact Or.inr (Or.inl ⟨hv, by simp [FieldSpec.kind, Kind.typedContainer, hu]⟩)
    · exact Or.inl (Or.inr ⟨hu, hv, fun xs _ x _ => (flatOpt_props hi).2 x⟩)
  | dict kf vf =>
    simp only [Flat, Bool.or_eq_true, Bool.and_eq_true] at h
    rcases h with h | ⟨⟨_, h1⟩, h2⟩
    · exact Or.inl (Or.inl (by simpa using h))
    · by_cases hnn : (kf.isNone && vf.isNone) = true
      · exact Or.inl (Or.inl hnn)
      · by_cases hv : v = .none
        · exact Or.inr (Or.inl ⟨hv, by simp only [FieldSpec.kind, Kind.typedContainer, Bool.eq_false_iff.2 hnn]; rfl⟩)
        · exact Or.inl (Or.inr ⟨hv, fun kvs _ kv _ => ⟨(flatOpt_props h1).2 kv.1, (flatOpt_props h2).2 kv.2⟩⟩)
  | secure m =>
    by_cases hv : v = .str []
    · exact Or.inr (Or.inr ⟨hv, m, rfl⟩)
    · exact Or.inl hv
  | challenge alg => simp [Flat] at h
  | _ => exact Or.inl trivial

end Cinco.Field
