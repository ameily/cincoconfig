import Cinco.Basic.Tree
/-
  In-memory Python values as the library sees them.  `isinstance` is modelled with Python's subclass
  lattice (`bool ⊂ int`; proxies are lists / dicts; a digest value is a tuple), so the *order* of the type
  tests in the code is visible in the model exactly as in Python.
-/
namespace Cinco

abbrev Bytes := List UInt8

inductive Val where
  | none
  | bool (b : Bool)
  | int (i : Int)
  | flt (f : Flt)
  | str (s : Str)
  | bytes (b : Bytes)
  | list (xs : List Val)                    -- list / ListProxy
  | tuple (xs : List Val)
  | dict (kvs : List (Val × Val))           -- dict / DictProxy, insertion ordered
  | digest (salt dig : Bytes) (alg : String)
  | opaque (kind : String)                  -- anything else; only its Python type name matters
  deriving Repr, Inhabited

mutual
  def Val.beq : Val → Val → Bool
    | .none, .none => true
    | .bool a, .bool b => a == b
    | .int a, .int b => a == b
    | .flt a, .flt b => a == b
    | .str a, .str b => a == b
    | .bytes a, .bytes b => a == b
    | .list a, .list b => Val.beqList a b
    | .tuple a, .tuple b => Val.beqList a b
    | .dict a, .dict b => Val.beqKvs a b
    | .digest s d a, .digest s' d' a' => s == s' && d == d' && a == a'
    | .opaque a, .opaque b => a == b
    | _, _ => false
  def Val.beqList : List Val → List Val → Bool
    | [], [] => true
    | a :: as, b :: bs => Val.beq a b && Val.beqList as bs
    | _, _ => false
  def Val.beqKvs : List (Val × Val) → List (Val × Val) → Bool
    | [], [] => true
    | (k, a) :: as, (k', b) :: bs => Val.beq k k' && Val.beq a b && Val.beqKvs as bs
    | _, _ => false
end

mutual
  theorem Val.beq_iff : ∀ (a b : Val), Val.beq a b = true ↔ a = b
    | .none, b | .bool _, b | .int _, b | .flt _, b | .str _, b | .bytes _, b | .opaque _, b => by
        cases b <;> simp [Val.beq]
    | .digest s d a, b => by cases b <;> simp [Val.beq, and_assoc]
    | .list x, b | .tuple x, b => by cases b <;> simp [Val.beq, Val.beqList_iff x]
    | .dict x, b => by cases b <;> simp [Val.beq, Val.beqKvs_iff x]
  theorem Val.beqList_iff : ∀ (a b : List Val), Val.beqList a b = true ↔ a = b
    | [], [] | [], _ :: _ | _ :: _, [] => by simp [Val.beqList]
    | x :: xs, y :: ys => by simp [Val.beqList, Val.beq_iff x y, Val.beqList_iff xs ys]
  theorem Val.beqKvs_iff : ∀ (a b : List (Val × Val)), Val.beqKvs a b = true ↔ a = b
    | [], [] | [], _ :: _ | _ :: _, [] => by simp [Val.beqKvs]
    | (k, x) :: xs, (k', y) :: ys => by
        simp [Val.beqKvs, Val.beq_iff k k', Val.beq_iff x y, Val.beqKvs_iff xs ys, and_assoc]
end

instance : DecidableEq Val := fun a b => decidable_of_iff _ (Val.beq_iff a b)

/-- Python truthiness -/
def Val.truthy : Val → Bool
  | .none => false
  | .bool b => b
  | .int i => i != 0
  | .flt (.dy m _) => m != 0
  | .flt .negzero => false
  | .flt _ => true
  | .str s => !s.isEmpty
  | .bytes b => !b.isEmpty
  | .list xs => !xs.isEmpty
  | .tuple xs => !xs.isEmpty
  | .dict kvs => !kvs.isEmpty
  | .digest _ _ _ => true
  | .opaque _ => true

/-- `type(v).__name__` as used in error messages and by the harness -/
def Val.typeName : Val → String
  | .none => "NoneType" | .bool _ => "bool" | .int _ => "int" | .flt _ => "float" | .str _ => "str"
  | .bytes _ => "bytes" | .list _ => "list" | .tuple _ => "tuple" | .dict _ => "dict"
  | .digest _ _ _ => "DigestValue" | .opaque k => k

end Cinco

namespace Cinco
mutual
  /-- plain data as an in-memory value -/
  def Val.ofTree : Tree → Val
    | .null => .none
    | .bool b => .bool b
    | .int i => .int i
    | .flt f => .flt f
    | .str s => .str s
    | .list xs => .list (Val.ofTrees xs)
    | .dict kvs => .dict (Val.ofKvs kvs)
  def Val.ofTrees : List Tree → List Val
    | [] => []
    | x :: xs => Val.ofTree x :: Val.ofTrees xs
  def Val.ofKvs : List (String × Tree) → List (Val × Val)
    | [] => []
    | (k, v) :: rest => (.str k.toList, Val.ofTree v) :: Val.ofKvs rest
end

mutual
  /-- the plain-data tree a value denotes, if it is plain data (strings, numbers, booleans, null, lists, string-keyed maps) -/
  def Val.toTree? : Val → Option Tree
    | .none => some .null
    | .bool b => some (.bool b)
    | .int i => some (.int i)
    | .flt f => some (.flt f)
    | .str s => some (.str s)
    | .list xs => (Val.toTrees? xs).map .list
    | .dict kvs => (Val.toKvs? kvs).map .dict
    | _ => Option.none
  def Val.toTrees? : List Val → Option (List Tree)
    | [] => some []
    | x :: xs => match Val.toTree? x, Val.toTrees? xs with
      | some t, some ts => some (t :: ts)
      | _, _ => Option.none
  def Val.toKvs? : List (Val × Val) → Option (List (String × Tree))
    | [] => some []
    | (.str k, v) :: rest => match Val.toTree? v, Val.toKvs? rest with
      | some t, some ts => some ((String.ofList k, t) :: ts)
      | _, _ => Option.none
    | _ => Option.none
end
end Cinco
