/-
  Plain-data trees: what a ConfigFormat encodes/decodes and what `to_tree` produces.
  Floats are exact dyadic rationals (or inf / nan / -0.0); strings are lists of code points.
-/
namespace Cinco

/-- A binary64 value by exact denotation: `dy m e` is `m * 2^e` (normal form: `m` odd, or `m = 0 ∧ e = 0`). -/
inductive Flt where
  | nan | pinf | ninf | negzero
  | dy (m : Int) (e : Int)
  deriving DecidableEq, Repr, Inhabited

abbrev Str := List Char

inductive Tree where
  | null
  | bool (b : Bool)
  | int (i : Int)
  | flt (f : Flt)
  | str (s : Str)
  | list (xs : List Tree)
  | dict (kvs : List (String × Tree))
  deriving Repr, Inhabited

abbrev Kvs := List (String × Tree)

mutual
  def Tree.beq : Tree → Tree → Bool
    | .null, .null => true
    | .bool a, .bool b => a == b
    | .int a, .int b => a == b
    | .flt a, .flt b => a == b
    | .str a, .str b => a == b
    | .list a, .list b => Tree.beqList a b
    | .dict a, .dict b => Tree.beqKvs a b
    | _, _ => false
  def Tree.beqList : List Tree → List Tree → Bool
    | [], [] => true
    | a :: as, b :: bs => Tree.beq a b && Tree.beqList as bs
    | _, _ => false
  def Tree.beqKvs : List (String × Tree) → List (String × Tree) → Bool
    | [], [] => true
    | (k, a) :: as, (k', b) :: bs => k == k' && Tree.beq a b && Tree.beqKvs as bs
    | _, _ => false
end

mutual
  theorem Tree.beq_iff : ∀ (a b : Tree), Tree.beq a b = true ↔ a = b
    | .null, b | .bool _, b | .int _, b | .flt _, b | .str _, b => by cases b <;> simp [Tree.beq]
    | .list x, b => by cases b <;> simp [Tree.beq, Tree.beqList_iff x]
    | .dict x, b => by cases b <;> simp [Tree.beq, Tree.beqKvs_iff x]
  theorem Tree.beqList_iff : ∀ (a b : List Tree), Tree.beqList a b = true ↔ a = b
    | [], [] | [], _ :: _ | _ :: _, [] => by simp [Tree.beqList]
    | x :: xs, y :: ys => by simp [Tree.beqList, Tree.beq_iff x y, Tree.beqList_iff xs ys]
  theorem Tree.beqKvs_iff : ∀ (a b : List (String × Tree)), Tree.beqKvs a b = true ↔ a = b
    | [], [] | [], _ :: _ | _ :: _, [] => by simp [Tree.beqKvs]
    | (k, x) :: xs, (k', y) :: ys => by simp [Tree.beqKvs, Tree.beq_iff x y, Tree.beqKvs_iff xs ys, and_assoc]
end

instance : DecidableEq Tree := fun a b => decidable_of_iff _ (Tree.beq_iff a b)

namespace Kvs

/-- `d.get(k)` on an insertion-ordered association list. -/
def lookup (k : String) : Kvs → Option Tree
  | [] => none
  | (k', v) :: rest => if k' = k then some v else lookup k rest

/-- `d[k] = v`: replace in place when present, append otherwise (Python dict order). -/
def set (k : String) (v : Tree) : Kvs → Kvs
  | [] => [(k, v)]
  | (k', v') :: rest => if k' = k then (k', v) :: rest else (k', v') :: set k v rest

def keys (d : Kvs) : List String := d.map (·.1)

end Kvs
end Cinco

namespace Cinco
mutual
  /-- the Python dict invariant, at every depth: no key twice in a map -/
  def Tree.wf : Tree → Bool
    | .list xs => Tree.wfList xs
    | .dict kvs => Tree.wfKvs kvs
    | _ => true
  def Tree.wfList : List Tree → Bool
    | [] => true
    | x :: xs => Tree.wf x && Tree.wfList xs
  def Tree.wfKvs : List (String × Tree) → Bool
    | [] => true
    | (k, v) :: rest => !(rest.map (·.1)).contains k && Tree.wf v && Tree.wfKvs rest
end
end Cinco
