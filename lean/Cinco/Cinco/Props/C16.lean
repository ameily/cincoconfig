import Cinco.Proofs.Paths
/-
  C16 — all ways of naming a field agree; command-line overrides touch only what's given.
  (Proofs in Cinco/Proofs/Paths.lean.)
-/
namespace Cinco.C16
open Cinco Cinco.Field Cinco.Config

/-- **Enumeration = lookup**: for a root schema whose keys are pairwise distinct at every level, a path is reported by field
    enumeration with field `f` exactly when looking that path up on the schema yields `f`. -/
theorem enum_iff_lookup (s : Schema) (hnd : s.keysNodup = true) (ks : List String) (f : SField) :
    (ks, f) ∈ allPaths [] s ↔ lookupPath s ks = some f := Config.enum_iff_lookup s hnd ks f

/-- **Dotted strings agree with key components** on the schema: the library's dotted-path walk over the printed path finds
    what component-wise lookup finds (identifier keys: non-empty, no dot).  The string is `renderPath ks`, the library's
    own rendering; `dottedChars ks` (next theorem) is the same characters, `dottedChars_eq_renderPath`. -/
theorem schema_dotted_lookup (fuel : Nat) (s : Schema) (ks : List String) (hg : goodKeys ks) (hne : ks ≠ []) (hl : ks.length ≤ fuel) :
    schemaLookup fuel s (renderPath ks).toList = lookupPath s ks := by
  rw [← dottedChars_eq_renderPath]; exact schemaLookup_dotted fuel s ks hg hne hl

/-- **Dotted strings agree with key components on a configuration**: dotted-path access equals chained attribute access, and
    membership is "that access finds something". -/
theorem config_dotted_lookup (fuel : Nat) (c : Cfg) (ks : List String) (hg : goodKeys ks) (hne : ks ≠ []) (hl : ks.length ≤ fuel) :
    cfgLookup fuel c (dottedChars ks) = chain c ks ∧ cfgContains fuel c (dottedChars ks) = (chain c ks).isSome :=
  ⟨cfgLookup_dotted fuel c ks hg hne hl, by rw [cfgContains_eq, cfgLookup_dotted fuel c ks hg hne hl]⟩

/-- **The generated parser**: one option per scalar field, an on and an off switch per boolean, each with the field's path as
    destination, in enumeration order. -/
theorem parser_dests (s : Schema) :
    (genParser s).map (·.dest) = (allFields s).flatMap (fun (p, f) => match f with
      | .leaf fs _ => (match optKindOf fs.kind with
          | some .store => [p] | some .flag => [p, p] | none => [])
      | _ => []) := Config.parser_dests s

/-- **An empty command line overrides nothing** (finding F14: the real parser's namespace did). -/
theorem override_empty_cmdline (W : World) (fuel : Nat) (s : Schema) (c : Cfg) (opts : List OptSpec) (ignore : List String) (n : Nat) :
    cmdlineOverride W fuel s c (parseArgs opts []) ignore n = { cfg := c, next := n } :=
  Config.override_empty_cmdline W fuel s c opts ignore n

/-- **Overrides touch only what the user supplied and did not ask to ignore**: every top-level key that is not the first
    component of a supplied, non-ignored option keeps its slot — values at all depths below it included. -/
theorem override_frame (W : World) (fuel : Nat) (s : Schema) (c : Cfg) (ns : List (String × Option Val)) (ignore : List String) (n : Nat)
    (k' : String) (h : touches ns ignore k' = false) : (cmdlineOverride W fuel s c ns ignore n).cfg.get k' = c.get k' :=
  Config.override_frame W fuel s c ns ignore n k' h

/-- the documented example of `get_all_fields`: `x`, `y`, `y.z`, `z` in schema order -/
example : (allFields (.mk [("x", .leaf (.mk (.int none none) false none) {}), ("y", .sub (.mk [("z", .leaf (.mk (.string {}) false none) {})] false [])),
    ("z", .leaf (.mk (.string {}) false none) {})] false [])).map (·.1) = ["x", "y", "y.z", "z"] := by decide

end Cinco.C16
