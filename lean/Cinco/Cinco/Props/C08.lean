import Cinco.Proofs.Cipher
import Cinco.Proofs.Base64
import Cinco.Crypto.Secure
/-
  C08 — ciphers invert exactly; AES is standard (CBC/PKCS7) with a fresh IV; bad input is rejected.
  The block function is a parameter with the law `dec k (enc k b) = b` on 16-byte blocks (a hypothesis about
  `cryptography`'s AES, not an axiom).  The executable FIPS-197 AES in Cinco/Crypto/Aes256.lean is used by the
  driver as the independent "standard implementation" in the correspondence check.
-/
namespace Cinco.C08
open Cinco Cinco.Crypto Cinco.Secure

/-- **XOR spec**: byte `i` of the result is byte `i` of the data XOR byte `i mod |key|` of the key. -/
theorem xor_spec (key p : Bytes) (hk : key ≠ []) (i : Nat) (hi : i < p.length) :
    ∃ kb, key[i % key.length]? = some kb ∧ (xorKey key p)[i]? = some (p[i] ^^^ kb) := by
  have hpos : 0 < key.length := List.length_pos_iff.2 hk
  have hlt : i % key.length < key.length := Nat.mod_lt _ hpos
  refine ⟨key[i % key.length], by simp [hlt], ?_⟩
  rw [xorKey_getElem?]
  simp [hi, hlt]

/-- **XOR is its own inverse** (any key, any data, any length relation between them). -/
theorem xor_involutive (key p : Bytes) : xorKey key (xorKey key p) = p := by
  apply List.ext_getElem?
  intro i
  rw [xorKey_getElem?, xorKey_getElem?]
  cases p[i]? <;> cases key[i % key.length]? <;> simp [xor_cancel]

theorem xor_length (key p : Bytes) : (xorKey key p).length = p.length := by
  simp [xorKey]

/-- **PKCS7**: padding is 1..16 bytes to a positive multiple of 16 and unpadding inverts it, for every length. -/
theorem pkcs7_unpad (p : Bytes) :
    unpad (pad p) = some p ∧ (pad p).length % 16 = 0 ∧ 0 < padLen p.length ∧ padLen p.length ≤ 16 :=
  ⟨unpad_pad p, pad_length_mod p, (padLen_pos _).1, (padLen_pos _).2⟩

/-- **AES/CBC round trip** for every key, IV and plaintext of any length, for any lawful block cipher. -/
theorem cbc_roundtrip (C : BlockCipher) (hC : C.Lawful) (k iv p : Bytes) (hiv : iv.length = 16) :
    aesDecrypt C k (aesEncrypt C k iv p) = .ok p := by
  have hb := blocks_mem_length (pad p) (pad_length_mod p)
  have hc := cbcEnc_mem_length C hC k _ iv hiv hb
  have hlen := cbcEnc_flatten_length C hC k _ iv hiv hb
  rw [flatten_blocks] at hlen
  rw [aesEncrypt, aesDecrypt_append C k iv _ hiv (by rw [hlen, pad_length]; omega) (by rw [hlen, pad_length_mod]),
    blocks_flatten _ hc, cbcDec_cbcEnc C hC k _ iv hiv hb, flatten_blocks, unpad_pad]

/-- **Layout**: the value is the IV followed by whole blocks; its length depends only on the plaintext length. -/
theorem aes_layout (C : BlockCipher) (hC : C.Lawful) (k iv p : Bytes) (hiv : iv.length = 16) :
    (aesEncrypt C k iv p).take 16 = iv ∧ (aesEncrypt C k iv p).length = 16 + 16 * (p.length / 16 + 1) := by
  refine ⟨aesEncrypt_take C k iv p hiv, ?_⟩
  rw [aesEncrypt, List.length_append, hiv,
    cbcEnc_flatten_length C hC k _ iv hiv (blocks_mem_length _ (pad_length_mod p)), flatten_blocks, pad_length]

/-- **Fresh IV ⇒ fresh ciphertext**: two encryptions (of anything) under different IVs differ. -/
theorem fresh_iv (C : BlockCipher) (k iv₁ iv₂ p q : Bytes) (h1 : iv₁.length = 16) (h2 : iv₂.length = 16)
    (hne : iv₁ ≠ iv₂) : aesEncrypt C k iv₁ p ≠ aesEncrypt C k iv₂ q :=
  fun h => hne (by rw [← aesEncrypt_take C k iv₁ p h1, h, aesEncrypt_take C k iv₂ q h2])

/-- **Malformed AES values are rejected**: anything shorter than IV + one block, or not block-aligned, never decrypts
    (stated as the contrapositive: what decrypts has at least 32 bytes, a multiple of 16). -/
theorem aes_malformed_rejected (C : BlockCipher) (k ct p : Bytes) (h : aesDecrypt C k ct = .ok p) :
    32 ≤ ct.length ∧ ct.length % 16 = 0 := by
  unfold aesDecrypt at h
  split at h
  · cases h
  next h1 =>
    simp only at h
    split at h
    · cases h
    next h2 => rw [List.length_drop] at h2; omega

/-- **The recorded method is always concrete**: `best` is resolved before anything is stored. -/
theorem method_concrete (E : Env) (key iv : Bytes) (method : String) (text : Bytes) (m : Method) (ct : Bytes)
    (h : encrypt E key iv method text = some (m, ct)) :
    (m.name = "aes" ∨ m.name = "xor") ∧ (method = "best" → (m = .aes ↔ E.aesAvailable = true)) := by
  constructor
  · cases m <;> simp [Method.name]
  · intro hb
    subst hb
    unfold encrypt resolveMethod at h
    cases ha : E.aesAvailable <;> simp [ha] at h <;> simp [h.1.symm]

theorem resolveMethod_name {a : Bool} {method : String} {m : Method} (h : resolveMethod a method = some m) :
    resolveMethod a m.name = some m := by
  cases m with
  | xor => simp [resolveMethod, Method.name]
  | aes =>
    cases a with
    | true => rfl
    | false => simp [resolveMethod] at h

theorem decrypt_encrypt (E : Env) (hC : E.cipher.Lawful) (key iv : Bytes) (hiv : iv.length = 16) (method : String)
    (text : Bytes) (m : Method) (ct : Bytes) (h : encrypt E key iv method text = some (m, ct)) :
    decrypt E key m.name ct = some text := by
  unfold encrypt at h
  split at h
  next hr =>
    cases h
    simp [decrypt, resolveMethod_name hr, cbc_roundtrip E.cipher hC key iv _ hiv]
  next hr =>
    cases h
    simp [decrypt, resolveMethod_name hr, xor_involutive]
  · cases h

theorem toBasic_cons (E : Env) (key iv : Bytes) (method : String) (c : Char) (cs : Str) :
    toBasic E key iv method (some (c :: cs)) =
      (encrypt E key iv method (E.utf8.enc (c :: cs))).map fun mc =>
        .dict [("method", .str mc.1.name.toList), ("ciphertext", .str (B64.encode mc.2))] := by
  simp only [toBasic]
  cases encrypt E key iv method (E.utf8.enc (c :: cs)) <;> rfl

/-- **Field-level round trip**: what `to_basic` stores, `to_python` turns back into the plaintext — for every
    non-empty secret, key, IV and method (aes / xor / best). -/
theorem secure_roundtrip (E : Env) (hC : E.cipher.Lawful) (hU : E.utf8.Lawful) (key iv : Bytes) (hiv : iv.length = 16)
    (method : String) (s : Str) (hs : s ≠ []) (stored : Tree)
    (h : toBasic E key iv method (some s) = some stored) : toPython E key stored = some (some s) := by
  cases s with
  | nil => exact absurd rfl hs
  | cons c cs =>
    rw [toBasic_cons, Option.map_eq_some_iff] at h
    obtain ⟨⟨m, ct⟩, he, rfl⟩ := h
    have hm : m.name.toList.isEmpty = false := by cases m <;> rfl
    simp [toPython, Kvs.lookup, hm, B64.decodeStrict_encode, decrypt_encrypt E hC key iv hiv _ _ _ _ he, hU (c :: cs)]

/-- **What is stored for a secret**: never the plaintext node — exactly a two-key map holding a concrete method name and
    base64 text; an empty or unset secret is stored as null. -/
theorem secure_stored_shape (E : Env) (key iv : Bytes) (method : String) (v : Option Str) (stored : Tree)
    (h : toBasic E key iv method v = some stored) :
    stored = .null ∨ ∃ m ct, stored = .dict [("method", .str m.name.toList), ("ciphertext", .str (B64.encode ct))] ∧
      encrypt E key iv method (E.utf8.enc (v.getD [])) = some (m, ct) := by
  match v with
  | none | some [] => exact .inl (Option.some.inj h).symm
  | some (c :: cs) =>
    rw [toBasic_cons, Option.map_eq_some_iff] at h
    obtain ⟨⟨m, ct⟩, he, rfl⟩ := h
    exact .inr ⟨m, ct, rfl, he⟩

/-- **Stored secrets of the wrong shape or encoding are rejected** (complete decision table, stated as the contrapositive): the only
    stored values that produce a value are null, a bare string, or a map with a known string method and strict base64 text
    (`b64decode(validate=True)`: alphabet characters and final padding only) that decrypts. -/
theorem stored_malformed_rejected (E : Env) (key : Bytes) (stored : Tree) (r : Option Str)
    (h : toPython E key stored = some r) :
    stored = .null ∨ (∃ s, stored = .str s) ∨
    ∃ d m c ct p, stored = .dict d ∧ Kvs.lookup "method" d = some (.str m) ∧ m ≠ [] ∧
      Kvs.lookup "ciphertext" d = some (.str c) ∧ B64.decodeStrict c = some ct ∧
      decrypt E key (String.ofList m) ct = some p ∧ E.utf8.dec p = r := by
  unfold toPython at h
  split at h
  · exact .inl rfl
  · exact .inr (.inl ⟨_, rfl⟩)
  next d =>
    -- `toPython` on a map is a chain of five tests; every way out but the innermost is a rejection
    split at h
    next m hm =>
      split at h
      · cases h
      next hem =>
        split at h
        next c hc =>
          split at h
          · cases h
          next ct hb =>
            split at h
            · cases h
            next p hd =>
              refine .inr (.inr ⟨d, m, c, ct, p, rfl, hm, ?_, hc, hb, hd, ?_⟩)
              · intro e; rw [e] at hem; exact hem rfl
              · cases hu : E.utf8.dec p <;> simp [hu] at h ⊢
                exact h
        · cases h
    · cases h
  · cases h

/-- **Foreign characters in the stored text are rejected**: a stored map whose ciphertext text contains a character outside
    `A–Z a–z 0–9 + / =` never produces a value — whatever the method, the key and the rest of the text (the non-strict
    decoder would skip such characters, so `"!!!!"` would read as the empty ciphertext and `good + "!!??"` as `good`). -/
theorem stored_foreign_characters_rejected (E : Env) (key : Bytes) (d : Kvs) (c : Str)
    (hc : Kvs.lookup "ciphertext" d = some (.str c))
    (hf : ∃ x ∈ c, B64.inAlphabet x = false ∧ x ≠ '=') :
    toPython E key (.dict d) = none := by
  -- by the decision table a value would mean that the text under "ciphertext" passed the strict decoder
  refine Option.eq_none_iff_forall_ne_some.2 fun r h => ?_
  obtain h | ⟨_, h⟩ | ⟨_, _, _, _, _, hd, _, _, hc', hb, _⟩ := stored_malformed_rejected E key _ r h
  · cases h
  · cases h
  · cases hd
    cases hc.symm.trans hc'
    cases (B64.decodeStrict_rejects_foreign c hf).symm.trans hb

/-- `"!!!!"` (non-strictly: the empty ciphertext) and a valid text with `"!!??"` appended (non-strictly: the same
    ciphertext) are rejected under every key, for both methods; the valid text itself is not, and the non-strict decoder
    (used by the bytes and digest fields) reads all three. -/
example (E : Env) (key : Bytes) :
    toPython E key (.dict [("method", .str "xor".toList), ("ciphertext", .str "!!!!".toList)]) = none ∧
    toPython E key (.dict [("method", .str "aes".toList), ("ciphertext", .str "!!!!".toList)]) = none ∧
    toPython E key (.dict [("method", .str "xor".toList), ("ciphertext", .str "QUJD!!??".toList)]) = none ∧
    toPython E key (.dict [("method", .str "aes".toList), ("ciphertext", .str "QUJD!!??".toList)]) = none :=
  ⟨stored_foreign_characters_rejected E key _ _ rfl ⟨'!', by decide, by decide, by decide⟩,
   stored_foreign_characters_rejected E key _ _ rfl ⟨'!', by decide, by decide, by decide⟩,
   stored_foreign_characters_rejected E key _ _ rfl ⟨'?', by decide, by decide, by decide⟩,
   stored_foreign_characters_rejected E key _ _ rfl ⟨'?', by decide, by decide, by decide⟩⟩
example : B64.decode "!!!!".toList = some [] ∧ B64.decode "QUJD!!??".toList = some [65, 66, 67] ∧
    B64.decodeStrict "QUJD".toList = some [65, 66, 67] ∧
    B64.decodeStrict "!!!!".toList = none ∧ B64.decodeStrict "QUJD!!??".toList = none := by decide
/-- with the XOR method and the empty key (XOR with nothing is the identity) the valid text loads, the two others do not -/
example (E : Env) (hU : E.utf8.dec [65, 66, 67] = some ['A', 'B', 'C']) :
    toPython E [] (.dict [("method", .str ['x', 'o', 'r']), ("ciphertext", .str ['Q', 'U', 'J', 'D'])]) =
      some (some ['A', 'B', 'C']) := by
  have hd : B64.decodeStrict ['Q', 'U', 'J', 'D'] = some [65, 66, 67] := by decide
  simp [toPython, Kvs.lookup, hd, decrypt, resolveMethod, xorKey, hU]

/-- Non-vacuity: the identity "cipher" is lawful, so the hypotheses of `cbc_roundtrip` are satisfiable,
    and a 17-byte plaintext takes two blocks. -/
example : (⟨fun _ b => b, fun _ b => b⟩ : BlockCipher).Lawful := ⟨fun _ _ _ => rfl, fun _ _ h => h⟩
example : (aesEncrypt ⟨fun _ b => b, fun _ b => b⟩ [] (List.replicate 16 0) (List.replicate 17 7)).length = 48 := by decide

end Cinco.C08
