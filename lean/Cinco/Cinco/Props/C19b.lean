import Cinco.Props.C19
import Cinco.Props.C02
/-
  C19b — "A file written by a successful save loads back into an equal configuration."

  `Props/C19.lean` proves what `Config.save` does to the destination (the generated effect sequence `saveProg`);
  `Props/C02.lean` proves that a document produced by `dumps` reloads into a configuration holding the same values
  (`doc_roundtrip`).  This file joins the two through the one thing they share, the bytes in the destination file, and adds the
  generated obligations about `Config.load` that the join needs: `load` reads the file it is given and hands exactly what it read
  to `loads`, and nothing in `load` / `loads` can write.
-/
namespace Cinco.C19b
open Cinco Cinco.Config Cinco.Effects Cinco.Generated

/-- what a later reader finds in the destination -/
def fileBytes : Dest → Option Bytes
  | .written b => some b
  | _ => none

/-- **Generated obligation**: `Config.load`, as `loadProg` is generated from its source, opens its file for reading, reads it,
    and only then calls `self.loads`; neither `load` nor `loads` contains an effect that can touch a file's content, and
    nothing in them is untranslatable. -/
theorem load_order :
    loadProg.any (fun e => match e with | .openR _ => true | _ => false) = true ∧
    loadProg.any (fun e => e == .read) = true ∧
    loadProg.any (isCall "self.loads") = true ∧
    (List.range loadProg.length).all (fun i => !(loadProg.getD i .close == .read) ||
      (List.range loadProg.length).all (fun j => !(loadProg.getD j .close |> isCall "self.loads") || i < j)) = true ∧
    loadProg.all harmless = true ∧ loadsProg.all harmless = true := by decide

/-- a load (which cannot fail in a way that writes: every effect is harmless) never changes the file it reads -/
theorem load_never_writes (c : Bytes) (fault : Option Nat) (s : St) : (exec c fault 0 s loadProg).dest = s.dest :=
  C19.exec_harmless_dest c fault loadProg 0 s load_order.2.2.2.2.1

/-- **A file written by a successful save loads back into an equal configuration.**  For a configuration satisfying the premises
    of the round-trip theorem and a format that gives its tree back: serialisation succeeds with some bytes `doc`; a save that
    meets no fault leaves exactly `doc` in the destination (`save_ok_bytes`, over the generated `saveProg`); and loading the
    bytes found there into a freshly built configuration succeeds and yields the same values. -/
theorem saved_file_loads_back (W : World) (fuel : Nat) (s : Schema) (c : Cfg) (c0 : Cfg) (n0 n1 : Nat) (F : DocFormat)
    (hnd : s.keysNodup = true) (hsr : SchemaLoadable W fuel s) (hsh : Shaped fuel s c) (hco : CodecOkAll W fuel s c)
    (hst : StableAll W fuel s c) (hvd : ValidDeep W fuel s c) (hv : ∃ p, validateCfg W (fuel + 1) s p c = none)
    (t : List (Val × Val)) (ht : toTree W fuel s c false none = some t) (hF : F.LawOn t)
    (hb : build W "" false none s n0 = .ok (c0, n1)) :
    ∃ doc out, dumpsCfg W fuel s c F = some doc ∧
      fileBytes (exec doc none 0 {} saveProg).dest = some doc ∧
      (∀ fault, (exec doc fault 0 (exec doc none 0 {} saveProg) loadProg).dest = .written doc) ∧
      loadsCfg W fuel s c0 F doc n1 = some out ∧ out.err = none ∧ SameValues W fuel s c out.cfg := by
  obtain ⟨doc, out, hd, hl, he, hs⟩ := C02.doc_roundtrip W fuel s c c0 n0 n1 F hnd hsr hsh hco hst hvd hv t ht hF hb
  refine ⟨doc, out, hd, ?_, ?_, hl, he, hs⟩
  · rw [C19.save_ok_bytes]; rfl
  · intro fault
    rw [load_never_writes, C19.save_ok_bytes]

/-- and a save that fails (at or before the point where the file is opened) leaves a previously saved file loadable as before:
    the destination is untouched, so what a reader finds is what it would have found without the call -/
theorem failed_save_keeps_previous (c : Bytes) (f : Nat) (hf : f ≤ firstUnsafe saveProg) :
    (exec c (some f) 0 {} saveProg).dest = .untouched := C19.save_fail_untouched c f hf

end Cinco.C19b
