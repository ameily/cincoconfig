import Cinco.Proofs.DictInv
/-
  C17 (continuation) — the typed dict holds only validation results, along whole histories (the dict counterpart of `list_inv`);
  also that its keys stay distinct (`dict_keys_stay_distinct`), that a rejected single-entry operation leaves it as it was
  (`dict_single_rejected_unchanged`), and two corollaries in the namespace of `Proofs/DictInv.lean`.
-/
namespace Cinco.C17b
open Cinco Cinco.Field Cinco.Proxy Cinco.Proxy.DictInv

/-- **After any operation — accepted or rejected, a half-finished `update(**kw)` included — every key and every value of a typed
    dict is a validation result of its field.**  The one premise: what is handed over *as a proxy of this very field* holds
    validated entries (the fast path copies it unvalidated, as the real proxy does). -/
theorem dict_holds_validation_results (E : Env) (kf vf : Option FieldSpec) (d : List (Val × Val)) (op : DOp)
    (hd : DictOk E kf vf d) (ho : DOpOk E kf vf op) : DictOk E kf vf (dstep E kf vf d op).1 :=
  dstep_preserves (Q := EntryOk E kf vf) (fun hd hkv x hx => (mem_dictSet hx).elim (hd x) (· ▸ hkv)) validateEntry_ok
    (fun hs hd x hx => hd x (hs.subset hx)) d op hd (fun _ _ e => by subst e; exact ho rfl)

theorem dict_history_holds_validation_results (E : Env) (kf vf : Option FieldSpec) (ops : List DOp) (d : List (Val × Val))
    (hd : DictOk E kf vf d) (ho : ∀ op ∈ ops, DOpOk E kf vf op) :
    DictOk E kf vf (ops.foldl (fun s op => (dstep E kf vf s op).1) d) :=
  List.foldlRecOn ops _ hd fun s hs op hm => dict_holds_validation_results E kf vf s op hs (ho op hm)

/-- the premise is needed: an unvalidated "own proxy" breaks the invariant — the model stores such entries as they are
    (a bool-valued dict handed `{1: 5}` "from a compatible proxy" then holds the int 5, which no validation returns) -/
theorem own_proxy_premise_needed : ¬ DictOk C17.env0 none (some (.mk .bool false none))
    (dstep C17.env0 none (some (.mk .bool false none)) [] (.update [(.int 1, .int 5)] true [])).1 := by
  intro h
  obtain ⟨u, hu⟩ := (h (.int 1, .int 5) List.mem_cons_self).2
  -- `validate` computes on each form of `u`; for a text what is left of it is `boolRule`, which only answers bools
  cases u with
  | str s =>
    have hu : (match boolRule (.str s) with | .error e => .error e | .ok v' => .ok v' : R Val) = .ok (.int 5) := hu
    generalize hb : boolRule (.str s) = r at hu
    cases r with
    | error e => cases hu
    | ok w =>
      obtain ⟨b, rfl⟩ := boolRule_shape hb
      cases hu
  | _ => cases hu

/-- keys stay duplicate-free (for the model's key equality, which is structural equality of values) under every operation,
    accepted or rejected, with no premise at all — not even for the compatible-proxy form of `update`, whose entries go through
    the same `d[k] = v` -/
theorem dict_keys_stay_distinct (E : Env) (kf vf : Option FieldSpec) (d : List (Val × Val)) (op : DOp)
    (hd : (dkeys d).Nodup) : (dkeys (dstep E kf vf d op).1).Nodup :=
  dstep_preserves (P := fun d => (dkeys d).Nodup) (Q := fun _ => True) (fun hd _ => dictSet_keys_nodup hd) (fun _ => trivial)
    (fun hs hd => hd.sublist (hs.map Prod.fst)) d op hd (fun _ _ _ _ _ => trivial)

/-- **A rejected single-entry operation leaves the typed dict exactly as it was — entry for entry, in order** (C06 for typed dicts:
    item assignment, `setdefault`, `|=`; the ordered association list is the state, so "an entry moved to the end" or "an entry
    holding None disappeared" is a different state) -/
theorem dict_single_rejected_unchanged (E : Env) (kf vf : Option FieldSpec) (d : List (Val × Val)) (op : DOp) (e : Val)
    (hop : match op with | .set _ _ => True | .setdefault _ _ => True | .ior _ => True | _ => False)
    (h : (dstep E kf vf d op).2 = .rejected e) : (dstep E kf vf d op).1 = d := by
  refine C17.dstep_rejected_unchanged (fun pairs c kw => ?_) h
  rintro rfl
  exact hop

end Cinco.C17b

/-! Two corollaries in the namespace of `Proofs/DictInv.lean`, whose notions (`DictOk`, `dkeys`) they combine; they stand in this
    file because they follow from the theorems above. -/
namespace Cinco.Proxy.DictInv
open Cinco Cinco.Field Cinco.Proxy

/-- without the compatible-proxy form every history is covered, with no hypothesis on the operations -/
theorem dict_run_inv_plain (E : Env) (kf vf : Option FieldSpec) (ops : List DOp) (d : List (Val × Val))
    (hd : DictOk E kf vf d) (hplain : ∀ pairs kw, DOp.update pairs true kw ∉ ops) :
    DictOk E kf vf (ops.foldl (fun s op => (dstep E kf vf s op).1) d) := by
  refine C17b.dict_history_holds_validation_results E kf vf ops d hd fun op hop => ?_
  cases op with
  | update pairs compat kw => rintro rfl; exact absurd hop (hplain pairs kw)
  | _ => trivial

/-- both invariants together, from the empty dict, for any history -/
theorem dict_run_wf (E : Env) (kf vf : Option FieldSpec) (ops : List DOp) (ho : ∀ op ∈ ops, DOpOk E kf vf op) :
    let d := ops.foldl (fun s op => (dstep E kf vf s op).1) []
    DictOk E kf vf d ∧ (dkeys d).Nodup :=
  ⟨C17b.dict_history_holds_validation_results E kf vf ops [] (fun _ h => nomatch h) ho,
   List.foldlRecOn (motive := fun d => (dkeys d).Nodup) ops _ List.nodup_nil fun s hs op _ => C17b.dict_keys_stay_distinct E kf vf s op hs⟩

end Cinco.Proxy.DictInv
