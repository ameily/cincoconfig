import Cinco.Config.Env
import Cinco.Proofs.Defined
/-
  C14 — environment variables beat files, assignment beats both, names are predictable.
-/
namespace Cinco.C14
open Cinco Cinco.Field Cinco.Config Cinco.Config.Defined

/-- the closed form of an inherited prefix: start from `base`, append `_KEY` for every schema key on the way down
    (`Config.joinUpper` of Config/Env.lean is a second closed form, by `String.intercalate`; no theorem uses it or relates
    the two) -/
def prefixOf (base : String) (keys : List String) : String :=
  keys.foldl (fun p k => (if p.isEmpty then "" else p ++ "_") ++ upperStr k) base

/-- **Nested schemas inherit**: below a schema whose prefix is the string `p`, a chain of schemas that leave `env` unset has
    the prefix `p_KEY1_KEY2…` (upper-cased, underscore-joined; no leading underscore when `p` is empty, i.e. `env=True`). -/
theorem prefix_inherited (p : String) : ∀ (chain : List (String × EnvSetting)), (∀ ks ∈ chain, ks.2 = .unset) →
    chain.foldl (fun q (ks : String × EnvSetting) => childPrefix q ks.2 ks.1) (.str p) = .str (prefixOf p (chain.map (·.1))) := by
  intro chain h
  induction chain generalizing p with
  | nil => rfl
  | cons e rest ih =>
    obtain ⟨k, st⟩ := e
    obtain rfl : st = .unset := h (k, st) List.mem_cons_self
    exact ih _ fun ks hks => h ks (List.mem_cons_of_mem _ hks)

/-- **A field with `env` unset under a string prefix, or with `env=True`, is bound to `PREFIX_KEY`** (just `KEY` without a prefix). -/
theorem field_name_derived (p : String) (k : String) :
    fieldVar (.str p) .unset k = some ((if p.isEmpty then "" else p ++ "_") ++ upperStr k) ∧
    fieldVar (.str p) .auto k = some ((if p.isEmpty then "" else p ++ "_") ++ upperStr k) ∧
    fieldVar .none .auto k = some (upperStr k) ∧ fieldVar .off .auto k = some (upperStr k) := ⟨rfl, rfl, rfl, rfl⟩

/-- an explicit name is used verbatim; `env=False` opts the field out, whatever the schemas say -/
theorem field_named_or_disabled (pf : Prefix) (s k : String) :
    fieldVar pf (.named s) k = some s ∧ fieldVar pf .disabled k = none := by
  cases pf <;> exact ⟨rfl, rfl⟩

/-- **Opt-out and absence propagate**: without a string prefix above (none declared, or `env=False`), schemas that leave `env`
    unset get no prefix and their fields with `env` unset are bound to nothing; a nested `env="NAME"` / `env=True` restarts. -/
theorem no_prefix_no_binding (pf : Prefix) (hp : ∀ p, pf ≠ .str p) (k : String) :
    fieldVar pf .unset k = none ∧ (∀ key, childPrefix pf .unset key = .none) ∧
    (∀ key s, childPrefix pf (.named s) key = .str s) ∧ (∀ key, childPrefix pf .auto key = .str "") ∧
    (∀ key, childPrefix pf .disabled key = .off) := by
  cases pf with
  | str p => exact absurd rfl (hp p)
  | none | off => exact ⟨rfl, fun _ => rfl, fun _ _ => rfl, fun _ => rfl, fun _ => rfl⟩

/-- the documented example: `Schema(env=True)`, `db.host` → `DB_HOST`; `auth = Schema(env="SECRET")`, `auth.username` → `SECRET_USERNAME` -/
example : envName .auto [("db", .unset)] .unset "host" = some "DB_HOST" ∧
    envName .auto [("auth", .named "SECRET")] .unset "username" = some "SECRET_USERNAME" ∧
    envName .auto [] (.named "APP_MODE") "mode" = some "APP_MODE" ∧ envName .auto [] .disabled "port" = none ∧
    envName .unset [("db", .unset)] .unset "host" = none ∧ envName .auto [("a", .disabled), ("b", .unset)] .unset "x" = none := by decide +kernel

/-- **The variable wins at construction**: a non-empty variable bound to a field that takes its default through
    `Field.__setdefault__` is validated and becomes the field's value (not marked user-defined). -/
theorem env_wins_build (W : World) (path k : String) (fs : FieldSpec) (m : LeafMeta) (c : Cfg) (n : Nat) (s : Str) (v : Val)
    (hk : usesBaseSetdefault fs.kind = true) (hc : ∀ alg, fs.kind ≠ .challenge alg)
    (henv : envValue W m = some s) (hv : validate W.fe.toEnv fs (.str s) = .ok v) (hnn : v ≠ .none) :
    setDefault W path k (.leaf fs m) c n = .ok (c.setDefault k (.val v), n) := by
  -- `hc` is not needed: with the variable set, `ChallengeField.__setdefault__` goes through the base class as well
  have _ := hc
  rw [setDefault_leaf, leafDefault_env W path k fs m s v hk henv hv hnn]
  rfl

/-- **An invalid variable makes construction fail with a ValidationError naming the field.** -/
theorem env_invalid (W : World) (path k : String) (fs : FieldSpec) (m : LeafMeta) (c : Cfg) (n : Nat) (s : Str) (e : Field.Err)
    (hk : usesBaseSetdefault fs.kind = true) (hc : ∀ alg, fs.kind ≠ .challenge alg)
    (henv : envValue W m = some s) (hv : validate W.fe.toEnv fs (.str s) = .error e) :
    setDefault W path k (.leaf fs m) c n = .error (fieldErr path k e) := by
  have _ := hc
  rw [setDefault_leaf, leafDefault_env_invalid W path k fs m s e hk henv hv]
  rfl

/-- **Documents loaded afterwards never override it**: while the variable is set, `load_tree` skips the key. -/
theorem env_beats_load (W : World) (fuel : Nat) (s : Schema) (path : String) (c : Cfg) (k : Str) (value : Val) (rest : List (Val × Val))
    (doValidate : Bool) (n : Nat) (fs : FieldSpec) (m : LeafMeta) (hf : s.get (String.ofList k) = some (.leaf fs m)) (x : Str)
    (henv : envValue W m = some x) :
    loadTree W fuel s path c ((.str k, value) :: rest) doValidate n = loadTree W fuel s path c rest doValidate n := by
  rw [loadTree_cons_str]
  simp only [decodeEntry, getField_some c hf, henv, Option.isSome_some, if_true]

/-- **Unset or empty variables, and fields without a binding, behave as if no binding existed**: construction and loads do
    not depend on the binding. -/
theorem env_absent_noop (W : World) (m : LeafMeta) (h : envValue W m = none) :
    envValue W { m with env := none } = none ∧ envValue W m = envValue W { m with env := none } := by
  have h0 : envValue W { m with env := none } = none := envValue_of_env_none W _ rfl
  exact ⟨h0, h.trans h0.symm⟩

/-- the variable counts as absent exactly when the field is unbound, the variable is unset, or it is the empty string -/
theorem envValue_none_iff (W : World) (m : LeafMeta) :
    envValue W m = none ↔ (m.env = none ∨ m.env = some "" ∨ ∃ nm, m.env = some nm ∧ (W.environ nm = none ∨ W.environ nm = some "")) := by
  unfold envValue
  cases hm : m.env with
  | none => simp
  | some nm =>
    by_cases he : nm = ""
    · simp [he]
    · cases hw : W.environ nm with
      | none => simp [he, hw]
      | some sv => by_cases hs : sv = "" <;> simp [he, hw, hs]

/-- **Finding F10 is real**: a typed list field bound to a set variable ignores it at construction (the default is stored),
    yet loads skip the key (`env_beats_load` holds for every leaf kind) — so the field can never receive the file's value either. -/
theorem env_ignored_by_lists (W : World) (path k : String) (item : Option FieldSpec) (req : Bool) (m : LeafMeta) (c : Cfg) (n : Nat)
    (hd : m.default.value = .none) :
    setDefault W path k (.leaf (.mk (.list item) req none) m) c n = .ok (c.setDefault k (.val .none), n) := by
  rw [setDefault_leaf]
  simp only [leafDefault, FieldSpec.kind, hd]
  rfl

end Cinco.C14
