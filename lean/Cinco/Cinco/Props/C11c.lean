import Cinco.Config.Ops
/-
  C11 (continuation) — what switches a section off.

  `featureEnabled s c` (Config/Ops.lean) is `Schema._is_feature_enabled`: ALL flag fields of the schema, each answering with the
  value the configuration HOLDS (the last two entries of the table in `C11b.load_validate_code_order`: `all(...)` over the flags,
  `__getval__` of the configuration — no environment, no world).
-/
namespace Cinco.C11c
open Cinco Cinco.Field Cinco.Config

/-- what one flag field says: the expression `featureEnabled` (Config/Ops.lean) has inline for a flag, under a name; the proofs pass
    between the two by `show` / `have`, the terms being the same up to unfolding `flagOn` -/
def flagOn (c : Cfg) (k : String) : Bool := match c.get k with | some (.val v) => v.truthy | _ => false

/-- **a section is exempt exactly when SOME flag of its schema is off** (or unset) — whichever, in whatever position -/
theorem exempt_iff_some_flag_off (s : Schema) (c : Cfg) :
    featureEnabled s c = false ↔ ∃ k fs m, (k, SField.leaf fs m) ∈ s.fields ∧ m.isFlag = true ∧ flagOn c k = false := by
  unfold featureEnabled
  rw [List.all_eq_false]
  constructor
  · rintro ⟨⟨k, f⟩, hmem, hbad⟩
    cases f with
    | leaf fs m =>
      have hbad : ¬ (if m.isFlag then flagOn c k else true) = true := hbad
      cases hm : m.isFlag with
      | true => exact ⟨k, fs, m, hmem, hm, by simpa [hm] using hbad⟩
      | false => simp [hm] at hbad
    | _ => exact absurd rfl hbad
  · rintro ⟨k, fs, m, hmem, hm, hoff⟩
    refine ⟨(k, .leaf fs m), hmem, ?_⟩
    show ¬ (if m.isFlag then flagOn c k else true) = true
    simp [hm, hoff]

/-- **the order of the flags does not matter** (nor where among the other fields they stand) -/
theorem flag_order_irrelevant (fields fields' : List (String × SField)) (dyn : Bool) (vs : List String) (c : Cfg) (hp : fields.Perm fields') :
    featureEnabled (.mk fields dyn vs) c = featureEnabled (.mk fields' dyn vs) c := by
  exact hp.all_eq

/-- with every flag on the section is held to its rules: validation is what the fields and validators say -/
theorem all_flags_on (s : Schema) (c : Cfg) (h : ∀ k fs m, (k, SField.leaf fs m) ∈ s.fields → m.isFlag = true → flagOn c k = true) :
    featureEnabled s c = true := by
  cases hf : featureEnabled s c with
  | true => rfl
  | false =>
    obtain ⟨k, fs, m, hmem, hm, hoff⟩ := (exempt_iff_some_flag_off s c).1 hf
    rw [h k fs m hmem hm] at hoff
    cases hoff

end Cinco.C11c
