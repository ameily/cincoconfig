import Cinco.Proofs.Sound
import Cinco.Props.C01
/-
  C01 (continuation) — the invariant restated against the *declared* constraints (`Sat`, Cinco/Proofs/Sound.lean) instead of
  "accepted again by its own validator": soundness of validation (C05b) composed with the invariant over histories (C01).
-/
namespace Cinco.Config
open Cinco Cinco.Field

/-- **Configuration level**: if every leaf value held at any depth (items of lists of configurations included) is a
    result of its own field's validation, every one of them satisfies what its field declares. -/
theorem allLeaves_sat (E : Env) (hE : EnvOk E) (d : Nat) (s : Schema) (c : Cfg)
    (h : AllLeaves (fun fs v => ∃ u, validate E fs u = .ok v) d s c) : AllLeaves (fun fs v => Sat E fs v) d s c :=
  allLeaves_mono (fun fs v ⟨u, hu⟩ => validate_sound E hE fs u v hu) d s c h

/-- under the invariant of C01 every held leaf value is unset or satisfies what its field declares: what a configuration
    holds (`Held`) is unset or a result of its field's validation (an unset *required* field is reported by `Config.validate`,
    C11, not by assignment) -/
theorem inv_sat (W : World) (hE : EnvOk W.fe.toEnv) (d : Nat) (s : Schema) (c : Cfg) (h : Inv W d s c) :
    AllLeaves (fun fs v => v = .none ∨ Sat W.fe.toEnv fs v) d s c :=
  allLeaves_mono (fun fs v hv => hv.imp id fun ⟨u, hu⟩ => validate_sound W.fe.toEnv hE fs u v hu) d s c
    ((inv_iff_allLeaves W d s c).1 h)

end Cinco.Config

namespace Cinco.C01b
open Cinco Cinco.Field Cinco.Config

/-- **C01, every reachable state**: after construction and after every finite sequence of assignments, tree loads and resets
    (accepted or rejected), every leaf value held at any depth is unset or satisfies the constraints its field declares. -/
theorem reachable_states_satisfy_declarations (W : World) (hE : EnvOk W.fe.toEnv) (d fuel : Nat) (s : Schema) (n : Nat)
    (c0 : Cfg) (n0 : Nat) (hdv : DefaultsValid W (d + 1) s) (hnd : s.keysNodup = true) (hpl : s.containerDefaultsPlain = true)
    (hb : build W "" false none s n = .ok (c0, n0)) (ops : List C01.Op) :
    AllLeaves (fun fs v => v = .none ∨ Sat W.fe.toEnv fs v) (d + 1) s (C01.run W fuel s (c0, n0) ops).1 :=
  inv_sat W hE (d + 1) s _ (C01.inv_run W d fuel s n c0 n0 hdv hnd hpl hb ops)

end Cinco.C01b
