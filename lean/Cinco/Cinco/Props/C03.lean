import Cinco.Proofs.Keys
import Cinco.Props.C02
import Cinco.Props.C08
/-
  C03 — secrets are stored only encrypted, under the key file of the nearest ancestor that names one.
  `toTreeK WK` is `Config.to_tree()` with the world (hence the encryption key) chosen per configuration by the bubbling rule of
  `Config._keyfile`; `WK k` is the world whose secrets are encrypted under key file `k`.
-/
namespace Cinco.C03
open Cinco Cinco.Field Cinco.Config

/-- **A secret is written as its encryption under the holder's key file**: for a secure leaf holding a non-empty string in a
    configuration whose key file is `key`, the tree holds exactly what `encrypt` returns under `key` (and `to_tree` raises if
    encryption fails) — never the held string itself. -/
theorem secret_rendered_encrypted (WK : String → World) (fuel : Nat) (key : String) (c : Cfg) (k : String)
    (method : String) (req : Bool) (cu : Option String) (m : LeafMeta) (s : Str) (hs : s ≠ [])
    (hv : c.get k = some (.val (.str s))) :
    renderFieldK WK fuel key c k (.leaf (.mk (.secure method) req cu) m) =
      ((WK key).fe.encryptS method s).map some := by
  rw [renderFieldK]
  simp only [hv, toBasic, toBasicKind]
  have : s.isEmpty = false := by cases s <;> simp_all
  simp only [this, Bool.false_eq_true, if_false]
  cases (WK key).fe.encryptS method s <;> rfl

/-- what `encrypt` returns (C08): a two-entry map with a concrete method name and base64 ciphertext, for every key, IV, method
    and non-empty secret; the plaintext node is not part of it -/
theorem stored_form (E : Secure.Env) (key iv : Bytes) (method : String) (s : Str) (hs : s ≠ []) (stored : Tree)
    (h : Secure.toBasic E key iv method (some s) = some stored) :
    ∃ (m : Secure.Method) (ct : Bytes), stored = .dict [("method", .str m.name.toList), ("ciphertext", .str (B64.encode ct))] ∧
      (m.name = "aes" ∨ m.name = "xor") := by
  rcases C08.secure_stored_shape E key iv method (some s) stored h with h0 | ⟨m, ct, h1, h2⟩
  · cases s with
    | nil => exact absurd rfl hs
    | cons a r =>
      simp only [Secure.toBasic] at h
      cases he : Secure.encrypt E key iv method (E.utf8.enc (a :: r)) with
      | none => simp [he] at h
      | some mc => simp [he] at h; subst h; cases h0
  · exact ⟨m, ct, h1, (C08.method_concrete E key iv method _ m ct h2).1⟩

/-- what `encrypt` returns for a non-empty secret decrypts to the secret with the same key (C08), for every key, IV and method -/
theorem stored_decrypts (E : Secure.Env) (hC : E.cipher.Lawful) (hU : E.utf8.Lawful) (key iv : Bytes) (hiv : iv.length = 16)
    (method : String) (s : Str) (hs : s ≠ []) (stored : Tree)
    (h : Secure.toBasic E key iv method (some s) = some stored) : Secure.toPython E key stored = some (some s) :=
  C08.secure_roundtrip E hC hU key iv hiv method s hs stored h

/-- **Nearest named ancestor.**  Along any chain of configurations from the root down, the key file in use at the end is the
    last one named on the chain. -/
theorem nearest_named (dflt : String) (before after : List (Option String)) (k : String)
    (hafter : ∀ x ∈ after, x = none) : keyAlong dflt (before ++ some k :: after) = k := by
  rw [keyAlong_append]
  exact keyAlong_all_none k after hafter

/-- along a chain of configurations none of which names a key file, the key file in use is the default one -/
theorem default_only_if_unnamed (dflt : String) (chain : List (Option String)) (h : ∀ x ∈ chain, x = none) :
    keyAlong dflt chain = dflt :=
  keyAlong_all_none dflt chain h

/-- the recursion of `toTreeK` hands each configuration the key file of its parent: at the end of a path of sub-configuration
    names the key file is `keyAlong` of the own names on that path -/
theorem key_on_path (dflt : String) (c sub : Cfg) (k : String) (rest : List String) (ch : List (Option String))
    (hg : c.get k = some (.node sub)) (hs : ownChain sub rest = some ch) :
    ownChain c (k :: rest) = some (c.keyfile :: ch) ∧
    keyAlong dflt (c.keyfile :: ch) = keyAlong (effKey dflt c) ch := by
  constructor
  · simp [ownChain, hg, hs]
  · unfold effKey; cases c.keyfile <;> rfl

/-- **No other key file is used**: the serialised tree depends on the worlds `WK` only at the key files of the configurations
    of the tree (each the nearest named one, or the default) — changing, creating or deleting any other key file cannot
    change what is written. -/
theorem only_tree_keys_matter (WK WK' : String → World) (fuel : Nat) (dflt : String) (s : Schema) (c : Cfg)
    (h : ∀ x ∈ nodeKeys fuel dflt s c, WK x = WK' x) : toTreeK WK fuel dflt s c = toTreeK WK' fuel dflt s c :=
  toTreeK_congr WK WK' fuel dflt s c h

/-- each of those key files is the default or one that a configuration of the tree names -/
theorem tree_keys_are_named_or_default (fuel : Nat) (dflt : String) (s : Schema) (c : Cfg) :
    ∀ x ∈ nodeKeys fuel dflt s c, x = dflt ∨ x ∈ namedKeys fuel s c :=
  nodeKeys_subset fuel dflt s c

/-- **The default key file is not used when the root names one.** -/
theorem default_unused (WK WK' : String → World) (fuel : Nat) (dflt : String) (s : Schema) (c : Cfg) (k : String)
    (hk : c.keyfile = some k) (hd : dflt ∉ namedKeys fuel s c) (h : ∀ x, x ≠ dflt → WK x = WK' x) :
    toTreeK WK fuel dflt s c = toTreeK WK' fuel dflt s c := by
  apply toTreeK_congr
  intro x hx
  have := nodeKeys_named_root fuel dflt s c k hk x hx
  exact h x (fun e => hd (e ▸ this))

/-- when one key file serves the whole tree (only the root names one, or nobody does), the keyed serialisation is the plain
    `to_tree` in the world of that key file — which ties C03 to the models verified in C02 and C10 -/
theorem uniform_tree (WK : String → World) (fuel : Nat) (dflt : String) (s : Schema) (c : Cfg) (k0 : String)
    (h : ∀ x ∈ nodeKeys fuel dflt s c, x = k0) :
    toTreeK WK fuel dflt s c = toTree (WK k0) fuel s c false none := by
  rw [← toTreeK_const (WK k0) fuel dflt s c]
  exact toTreeK_congr WK (fun _ => WK k0) fuel dflt s c (fun x hx => by rw [h x hx])

theorem uniform_when_unnamed (WK : String → World) (fuel : Nat) (dflt : String) (s : Schema) (c : Cfg)
    (h : namedKeys fuel s c = []) : toTreeK WK fuel dflt s c = toTree (WK dflt) fuel s c false none :=
  uniform_tree WK fuel dflt s c dflt (nodeKeys_unnamed fuel dflt s c h)

/-- **Reload under the same key file** (whole tree served by one key file `k0`): what was written decrypts and reloads to the
    same values in every (sub)configuration, by the round-trip theorem of C02 in the world of `k0`; its per-leaf codec premise
    is, for secrets, `stored_decrypts`. -/
theorem reload_same_key_partial (WK : String → World) (fuel : Nat) (dflt : String) (s : Schema) (c : Cfg) (k0 : String)
    (huni : ∀ x ∈ nodeKeys fuel dflt s c, x = k0)
    (t : List (Val × Val)) (c0 : Cfg) (n0 n1 : Nat)
    (hnd : s.keysNodup = true) (hsr : SchemaLoadable (WK k0) fuel s) (hsh : Shaped fuel s c)
    (hco : CodecOkAll (WK k0) fuel s c) (hst : StableAll (WK k0) fuel s c) (hvd : ValidDeep (WK k0) fuel s c)
    (hv : ∃ p, validateCfg (WK k0) (fuel + 1) s p c = none)
    (ht : toTreeK WK fuel dflt s c = some t) (hb : build (WK k0) "" false none s n0 = .ok (c0, n1)) :
    (loadTree (WK k0) fuel s "" c0 t true n1).err = none ∧
    SameValues (WK k0) fuel s c (loadTree (WK k0) fuel s "" c0 t true n1).cfg := by
  rw [uniform_tree WK fuel dflt s c k0 huni] at ht
  exact C02.tree_roundtrip (WK k0) fuel s c t c0 n0 n1 hnd hsr hsh hco hst hvd hv ht hb

/-! ### the recorded gap (finding F19): a key file assigned to a sub-configuration does not survive a load

`load_tree` replaces a sub-configuration by a newly built one, so a key file that was assigned to the old object is gone and the
new one inherits its parent's: the saved ciphertext (written under the sub-configuration's key file) is then decrypted with the
wrong key.  This is why `reload_same_key_partial` asks for one key file per tree.  Witness, on the model: -/

def f19Schema : Schema := .mk [("sub", .sub (.mk [("x", .leaf rtBool {})] false []))] false []
def f19Cfg : Cfg :=
  .mk 0 [("sub", .node (.mk 1 [("x", .val (.bool true))] [] [] (some "K2") true))] [] [] (some "K1") false

theorem f19_loaded :
    loadTree rtWorld 2 f19Schema "" f19Cfg [(.str "sub".toList, .dict [(.str "x".toList, .bool false)])] true 5 =
      { cfg := .mk 0 [("sub", .node (.mk 5 [("x", .val (.bool false))] [] [] none true))] [] [] (some "K1") false, next := 6 } := by
  simp [loadTree, decodeEntry, getField, setValue, setSub, build, buildFields, setDefault, f19Schema, f19Cfg, rtBool, rtWorld,
      Schema.get, Schema.fields, lookupField, Cfg.get, Cfg.slots, getSlot, envValue, FieldSpec.kind, Default.value,
      validateCfg, featureEnabled, validateFields, fieldProblem, Schema.validators, validate, validateKind, boolRule,
      toPython, toPythonKind, joinPath, Cfg.setUser, Cfg.set, Cfg.setDefault, Cfg.withSlots, Cfg.withDefaults, setSlot,
      Cfg.keyfile, Cfg.oid, Cfg.defaults, Cfg.dyn, Cfg.linked]

/-- the witness: `K2` before the load, nothing after.  The second `match` falls through to `some "?"`, not to `none`, so that
    its value `none` can only come from a sub-configuration that is there and names no key file -/
theorem f19_sub_key_lost :
    (match f19Cfg.get "sub" with | some (.node sub) => sub.keyfile | _ => none) = some "K2" ∧
    (match (loadTree rtWorld 2 f19Schema "" f19Cfg
        [(.str "sub".toList, .dict [(.str "x".toList, .bool false)])] true 5).cfg.get "sub" with
      | some (.node sub) => sub.keyfile
      | _ => some "?") = none := by
  rw [f19_loaded]
  exact ⟨rfl, rfl⟩

/-- a tree in which the root names `K1`, one sub-configuration names `K2` and another names nothing: the three configurations
    use `K1`, `K2`, `K1`; the default is not among them -/
example :
    let leaf : Schema := .mk [("x", .leaf rtBool {})] false []
    let s : Schema := .mk [("a", .sub leaf), ("b", .sub leaf)] false []
    let c : Cfg := .mk 0 [("a", .node (.mk 1 [("x", .val (.bool true))] [] [] (some "K2") true)),
                          ("b", .node (.mk 2 [("x", .val (.bool true))] [] [] none true))] [] [] (some "K1") false
    nodeKeys 3 "~/.cincokey" s c = ["K1", "K2", "K1"] ∧ namedKeys 3 s c = ["K1", "K2"] := by
  simp [nodeKeys, fieldKeys, namedKeys, fieldNamed, effKey, Schema.fields, Cfg.get, Cfg.slots, getSlot,
    Cfg.keyfile]

end Cinco.C03
