import Cinco.Generated.Overrides
import Cinco.Proofs.Inv
import Cinco.Proofs.ValidateIdem
/-
  C01 — every value a configuration holds satisfies its field's declared constraints.
  Read-back and frame of an assignment; the invariant `Inv` over whole histories (`step`, `run`, `inv_run`), each operation's
  part of it being in Cinco/Proofs/Inv.lean; what the invariant gives for a held value.
-/
namespace Cinco.C01
open Cinco Cinco.Field Cinco.Config

/-- **Read-back**: after an accepted assignment to a declared field, reading it yields the field's normal form of the
    assigned value (what `validate` returned) — never the raw argument. -/
theorem set_get (W : World) (fuel : Nat) (s : Schema) (path : String) (c : Cfg) (k : String) (v : Val) (n : Nat)
    (fs : FieldSpec) (m : LeafMeta) (hf : s.get k = some (.leaf fs m))
    (hok : (setValue W (fuel + 1) s path c k (.val v) n).err = none) :
    ∃ v', validate W.fe.toEnv fs v = .ok v' ∧ (setValue W (fuel + 1) s path c k (.val v) n).cfg.get k = some (.val v') := by
  rw [setValue_leaf W fuel s path c k _ n hf] at hok ⊢
  cases hv : validate W.fe.toEnv fs (Arg.val v).value with
  | error e => rw [hv] at hok; cases hok
  | ok v' => exact ⟨v', hv, Cfg.get_setUser_same c k _⟩

/-- **Frame**: an assignment (accepted or rejected, of anything) to key `k` changes no other key of that configuration. -/
theorem set_frame (W : World) (fuel : Nat) (s : Schema) (path : String) (c : Cfg) (k k' : String) (a : Arg) (n : Nat)
    (hne : k' ≠ k) : (setValue W fuel s path c k a n).cfg.get k' = c.get k' :=
  (setValue_assigned W fuel s path c k a n).get_other hne

/-- the inserting entry points of CPython's `list`: the only methods through which a new element can enter a list -/
def listInserting : List String := ["__init__", "append", "extend", "insert", "__setitem__", "__iadd__"]
/-- the inserting entry points of CPython's `dict` -/
def dictInserting : List String := ["__init__", "__setitem__", "update", "setdefault", "__ior__"]

/-- **Generated obligation**: today's `ListProxy` and `DictProxy` override *every* inserting entry point of the built-in they
    subclass (a typed container has no unvalidated way in).  The method sets are read from the source on every run. -/
theorem proxies_cover_inserting_entry_points :
    listInserting.all (fun m => Generated.listProxyMethods.contains m) = true ∧
    dictInserting.all (fun m => Generated.dictProxyMethods.contains m) = true := by decide +kernel

/-- the public mutating operations on a configuration, as the harness drives them -/
inductive Op where
  | setItem (dotted : List Char) (v : Val)                 -- assignment by dotted path / chained attributes (values and maps)
  | loadTree (entries : List (Val × Val)) (validate : Bool)
  | reset (dotted : List Char)

/-- one operation of a history on the root configuration (with the next free identity), accepted or rejected -/
def step (W : World) (fuel : Nat) (s : Schema) (cn : Cfg × Nat) : Op → Cfg × Nat
  | .setItem dotted v => let o := setItem W fuel s "" cn.1 dotted (.val v) cn.2; (o.cfg, o.next)
  | .loadTree es val => let o := loadTree W fuel s "" cn.1 es val cn.2; (o.cfg, o.next)
  | .reset dotted => let o := resetValue W fuel s cn.1 dotted cn.2; (o.cfg, o.next)

/-- a history of operations from a state -/
def run (W : World) (fuel : Nat) (s : Schema) (cn : Cfg × Nat) (ops : List Op) : Cfg × Nat := ops.foldl (step W fuel s) cn

/-- **One operation preserves the invariant**, whether it is accepted or rejected (the state after a rejection is included). -/
theorem inv_step (W : World) (d fuel : Nat) (s : Schema) (cn : Cfg × Nat) (op : Op)
    (hdv : DefaultsValid W (d + 1) s) (hnd : s.keysNodup = true) (hpl : s.containerDefaultsPlain = true)
    (hi : Inv W (d + 1) s cn.1) : Inv W (d + 1) s (step W fuel s cn op).1 := by
  cases op with
  | setItem dotted v => exact inv_setItem W (d + 1) fuel s "" cn.1 dotted v cn.2 hdv hnd hpl hi
  | loadTree es val => exact inv_loadTree W d fuel s "" cn.1 es val cn.2 hdv hnd hpl hi
  | reset dotted => exact inv_resetValue W (d + 1) fuel s cn.1 dotted cn.2 hdv hnd hpl hi

/-- **Every reachable state satisfies the invariant**: given a schema whose declared defaults are valid (and whose keys are
    distinct, container defaults without custom validators), after construction and after every finite sequence of assignments,
    tree loads and resets, every value held at any depth — list items included — is unset or a result of its own field's
    validation. -/
theorem inv_run (W : World) (d fuel : Nat) (s : Schema) (n : Nat) (c0 : Cfg) (n0 : Nat)
    (hdv : DefaultsValid W (d + 1) s) (hnd : s.keysNodup = true) (hpl : s.containerDefaultsPlain = true)
    (hb : build W "" false none s n = .ok (c0, n0)) :
    ∀ ops, Inv W (d + 1) s (run W fuel s (c0, n0) ops).1 := 
  fun ops => List.foldlRecOn (motive := fun cn => Inv W (d + 1) s cn.1) ops _
    (inv_build W (d + 1) "" false none s n c0 n0 hdv hnd hpl hb) fun cn h op _ => inv_step W d fuel s cn op hdv hnd hpl h

/-- **Held values satisfy their constraints**: for every declaration covered by `IdemOk` (C05), a held value is unset or is
    accepted unchanged by its own field — i.e. passes every check the validator makes (type, bounds, lengths, pattern, choices,
    address / host / URL syntax, item and key/value constraints). -/
theorem held_satisfies (W : World) (hE : EnvOk W.fe.toEnv) (f : FieldSpec) (v : Val) (hf : IdemOk f = true) (h : Held W f v) :
    v = .none ∨ validate W.fe.toEnv f v = .ok v := by
  rcases h with h | ⟨u, hu⟩
  · exact Or.inl h
  · exact Or.inr (Field.validate_idem prims W.fe.toEnv hE f u v hf hu)

end Cinco.C01
