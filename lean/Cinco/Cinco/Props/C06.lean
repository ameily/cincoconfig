import Cinco.Proofs.Cfg
import Cinco.Config.ListOps
import Cinco.Generated.Effects
/-
  C06 — a rejected operation leaves the configuration exactly as it was.
  Every operation of the model returns the state *at the moment it returned or raised* (`Out.cfg`), so these
  theorems are about write ordering in `_set_value` / `__setitem__`: validation, and the construction and loading
  of a new sub-configuration, all happen before the first write.  "Rejected" is `err ≠ none` in the first three theorems and
  `err = some e` in the two about lists of configurations (Config/ListOps.lean states them so): the same thing.
-/
namespace Cinco.C06
open Cinco Cinco.Field Cinco.Config

theorem setSub_rejected_unchanged (W : World) (fuel : Nat) (s' : Schema) (kf : Option String) (path : String) (c : Cfg)
    (k : String) (a : Arg) (n : Nat) (h : (setSub W fuel s' kf path c k a n).err ≠ none) :
    (setSub W fuel s' kf path c k a n).cfg = c :=
  (setSub_assigned W fuel s' kf path c k a n).unchanged h

/-- **A rejected assignment by attribute / constructor keyword leaves the configuration unchanged**: values at all depths,
    default marks, dynamic fields, identities of nested configurations — the state at the raise *is* the state before,
    for a leaf value, a map or a configuration assigned to a sub-configuration slot, or a list assigned to a list of
    configurations. -/
theorem setValue_rejected_unchanged (W : World) (fuel : Nat) (s : Schema) (path : String) (c : Cfg) (k : String) (a : Arg) (n : Nat)
    (h : (setValue W fuel s path c k a n).err ≠ none) : (setValue W fuel s path c k a n).cfg = c :=
  (setValue_assigned W fuel s path c k a n).unchanged h

theorem Cfg.set_node_of_unchanged {c : Cfg} {key : String} {sub : Cfg} (h : c.get key = some (.node sub)) :
    c.set key (.node sub) = c := Cfg.set_of_get h

/-- **A rejected assignment by dotted path leaves the configuration unchanged**, at every depth of the path. -/
theorem setItem_rejected_unchanged (W : World) : ∀ (fuel : Nat) (s : Schema) (path : String) (c : Cfg) (dotted : List Char) (a : Arg) (n : Nat),
    (setItem W fuel s path c dotted a n).err ≠ none → (setItem W fuel s path c dotted a n).cfg = c :=
  fun fuel s path c dotted a n =>
    setItem_induction W a n (P := fun _ c _ o => o.err ≠ none → o.cfg = c)
      (fun fuel s path c k => setValue_rejected_unchanged W fuel s path c k a n)
      (fun _ _ _ _ _ => rfl)
      (fun s c key f s' kf sub _ o _ _ hget ih he => by rw [ih he]; exact Cfg.set_of_get hget)
      fuel s path c dotted

/-- index of the first call of `fn` in the generated `loads` program -/
def loadsProgIndex (fn : String) : Option Nat :=
  (List.range Generated.loadsProg.length).find? (fun i => Effects.isCall fn (Generated.loadsProg.getD i .read))

/-- **Generated obligation** (document loads): in today's `Config.loads`, parsing (`formatter.loads`) and include processing
    (`self._process_includes`) both come strictly before `self.load_tree`, the only statement that touches the configuration;
    nothing in `loads` is untranslatable. -/
theorem loads_order :
    (match loadsProgIndex "formatter.loads", loadsProgIndex "self._process_includes", loadsProgIndex "self.load_tree" with
     | some a, some b, some c => decide (a < c) && decide (b < c)
     | _, _, _ => false) = true ∧
    Generated.loadsProg.all (fun e => match e with | .unknown _ => false | _ => true) = true := by
  decide +kernel

/-- **In-place operations on a list of configurations** (`append`, `insert`, index assignment with a map as the new item):
    the item is built, loaded and validated before the list is touched (an index assignment first looks the index up: F76,
    next theorem), so a rejection — by the item schema, for a non-map item, or for an index out of range — leaves the whole
    configuration as it was.  (Proved beside the model, Config/ListOps.lean: `cfgListOp_rejected_unchanged`.) -/
theorem list_item_op_rejected_unchanged (W : World) (fuel : Nat) (s : Schema) (c : Cfg) (dotted : List Char) (mode : ListMode)
    (item : Val) (n : Nat) (e : CErr) (h : (cfgListOp W fuel s c dotted mode item n).err = some e) :
    (cfgListOp W fuel s c dotted mode item n).cfg = c :=
  cfgListOp_rejected_unchanged W fuel s c dotted mode item n e h

/-- **An index assignment whose index names no item is refused before the new item is looked at** (finding F76): nothing is
    built, loaded or validated — no salt or IV is drawn (`next = n`), no object is linked to the list — and the configuration is
    returned as it is with the built-in's `IndexError`, whatever the offered item.  (Proved beside the model,
    Config/ListOps.lean: `cfgListOp_no_slot`.) -/
theorem list_item_no_slot_untouched (W : World) (fuel : Nat) (s s1 s' : Schema) (c owner : Cfg) (dotted : List Char) (path k : String)
    (it : Bool) (req : Bool) (m : LeafMeta) (cs : List Cfg) (i : Int) (item : Val) (n : Nat)
    (hw : walk fuel s "" c dotted = some (s1, path, owner, k)) (hf : s1.get k = some (.cfgList s' it req m))
    (hh : (owner.get k).bind heldItems = some cs) (hi : PyList.resolveIdx cs.length i = none) :
    cfgListOp W fuel s c dotted (.setIdx i) item n = { cfg := c, err := some (.raw "IndexError"), next := n } :=
  cfgListOp_no_slot W fuel s s1 s' c owner dotted path k it req m cs i item n hw hf hh hi

end Cinco.C06
