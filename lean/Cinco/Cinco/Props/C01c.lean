import Cinco.Props.C05
import Cinco.Generated.ContainerShape
/-
  C01 (finding F75) — what a typed list / dict field holds after its own validator ran.

  `Field.validate` stores what the field's validator returns.  For a typed `ListField` / `DictField` a validator may hand back a
  NEW container (sorted, de-duplicated, `dict(value)`), and nothing in that chain says that its items satisfy the item field.
  `validate` (Cinco/Field/Validate.lean) is that chain and omits what `ListField.validate` / `DictField.validate` add: they pass
  the validator's result through the field's own `_validate` once more.  `validateC` is the chain with that step.
-/
namespace Cinco.C01c
open Cinco Cinco.Field

/-- any list or dict kind, typed or not; on an untyped one the additional step of `validateC` converts nothing: it returns the
    value as it is, or rejects it (not a list / dict, or empty when required) -/
def isContainer : Kind → Bool
  | .list _ => true
  | .dict _ _ => true
  | _ => false

/-- `ListField.validate` / `DictField.validate`: the usual chain, and — when the field has a validator of its own and
    the result is not `None` — the kind's `_validate` once more on what the validator handed back -/
def validateC (E : Env) : FieldSpec → Val → R Val
  | .mk kind req custom, v =>
    match validate E (.mk kind req custom) v with
    | .error e => .error e
    | .ok .none => .ok .none
    | .ok w => if custom.isSome && isContainer kind then validateKind E kind req w else .ok w

/-- the additional step is taken only by container fields with a validator of their own -/
theorem validateC_eq_validate (E : Env) (k : Kind) (req : Bool) (c : Option String) (v : Val)
    (h : (c.isSome && isContainer k) = false) : validateC E (.mk k req c) v = validate E (.mk k req c) v := by
  simp only [validateC, h, Bool.false_eq_true, if_false]
  split <;> next h => exact h.symm

/-- A field without a validator of its own is not affected. -/
theorem validateC_no_validator (E : Env) (k : Kind) (req : Bool) (v : Val) :
    validateC E (.mk k req none) v = validate E (.mk k req none) v :=
  validateC_eq_validate E k req none v rfl

/-- A field that is no container is not affected. -/
theorem validateC_scalar (E : Env) (k : Kind) (req : Bool) (c : Option String) (v : Val) (hk : isContainer k = false) :
    validateC E (.mk k req c) v = validate E (.mk k req c) v :=
  validateC_eq_validate E k req c v (by rw [hk, Bool.and_false])

/-- **What a typed container field holds after its validator ran is a fixed point of the field's own `_validate`** — every item
    (key, value) satisfies its field and is in normal form — *whatever* the validator handed back: a sorted copy, a filtered one,
    a list with items the item field would have to convert.  Needs idempotence of the item fields (`IdemOkKind`: everything
    except the recorded F22 / F25 parameterisations). -/
theorem held_container_is_normal (E : Env) (hE : EnvOk E) (k : Kind) (req : Bool) (name : String) (v w : Val)
    (hk : isContainer k = true) (hi : IdemOkKind k = true) (hw : w ≠ .none)
    (h : validateC E (.mk k req (some name)) v = .ok w) : validateKind E k req w = .ok w := by
  simp only [validateC, Option.isSome_some, hk, Bool.and_self, if_true] at h
  split at h
  · cases h
  · exact absurd (Except.ok.inj h).symm hw
  · exact Field.validateKind_idem E hE k req _ w hi h

/-- A validator that hands back normal forms (what the harness' catalogue validators and every validator that only checks do):
    the additional step changes nothing, so `validate` — the chain every other theorem is about — describes such fields exactly. -/
theorem validateC_eq_of_lawful (E : Env) (k : Kind) (req : Bool) (name : String) (v : Val)
    (hlaw : ∀ w, validate E (.mk k req (some name)) v = .ok w → w ≠ .none → validateKind E k req w = .ok w) :
    validateC E (.mk k req (some name)) v = validate E (.mk k req (some name)) v := by
  simp only [validateC]
  split
  next h => exact h.symm
  next h => exact h.symm
  next w hne h =>
    rw [h]
    split
    · exact hlaw w h hne
    · rfl

/-- **/repo's `ListField.validate` and `DictField.validate` are the chain `validateC` follows** (generated reading of
    cincoconfig/fields/list_field.py and dict_field.py, regenerated on every run): the inherited chain first, then — only when the
    field has a validator and the result is not `None` — the field's own `_validate` on what came back. -/
theorem container_validate_code_order :
    Generated.containerShape.lookup "ListField.validate" =
      some ["value = super().validate(cfg, value)", "if[self.validator and value is not None]", "value = self._validate(cfg, value)", "end",
            "return value"] ∧
    Generated.containerShape.lookup "DictField.validate" =
      some ["value = super().validate(cfg, value)", "if[self.validator and value is not None]", "value = self._validate(cfg, value)", "end",
            "return value"] := ⟨rfl, rfl⟩

/-- an environment whose only catalogue validator hands back a list with an item the item field must reject -/
def envBad : Env := { C05.env0 with custom := fun _ _ => .ok (.list [.int 1, .str "x".toList]) }

/-- **Finding F75 in the model**: `validate`, the chain without the additional step, accepts for a list of integers a validator
    result that holds a string — a value that does not satisfy the field. -/
example : validate envBad (.mk (.list (some (.mk (.int none none) false none))) false (some "dedupe")) (.list [.int 1])
    = .ok (.list [.int 1, .str "x".toList]) := by decide +kernel

/-- `validateC`, the chain with the step, refuses the same input (so the hypothesis of `held_container_is_normal`, that `validateC`
    returns, is not always met). -/
example : validateC envBad (.mk (.list (some (.mk (.int none none) false none))) false (some "dedupe")) (.list [.int 1])
    = .error .value := by decide +kernel

/-- an environment whose only catalogue validator hands back a reordered list of normal forms: `validateC` returns it as it is
    (the example below is the non-vacuity witness of `held_container_is_normal`) -/
def envConv : Env := { C05.env0 with custom := fun _ _ => .ok (.list [.int 2, .int 1]) }

example : validateC envConv (.mk (.list (some (.mk (.int none none) false none))) false (some "sort")) (.list [.int 1, .int 2])
    = .ok (.list [.int 2, .int 1]) := by decide +kernel

end Cinco.C01c
