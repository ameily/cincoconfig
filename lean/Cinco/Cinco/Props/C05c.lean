import Cinco.Props.C05b
import Cinco.Proofs.Complete
/-
  C05 (continuation) — validation is *complete* on normal forms, hence EXACT.

  C05b: whatever a field accepts satisfies what the field declares (`Sat E f v`, written from the declaration).
  Here the converse: a value that satisfies the declaration — so it is of the field's stored type and already in normal
  form — is accepted, and returned as it is (Cinco/Proofs/Complete.lean).  Together: the set of results of validation
  is exactly the set of values satisfying the declaration, these are exactly the fixed points of validation, and a
  rejected value does not satisfy the declaration as it stands.

  `CompleteOk f` (decidable, Cinco/Proofs/Complete.lean) is a syntactic, sufficient condition (not a necessary one: e.g. a
  network field whose pattern happens to match every canonical text is excluded with all patterns).  It excludes
    (1) custom validators: on the field, on the key / value fields of dicts, on the item field of typed lists
        (`Sat` is `True` there; the catalogue function is arbitrary) — `custom_validator_needed`, `…_any`, `…_item`, `…_value`;
    (2) `IPv4NetworkField` with string options that a canonical text `a.b.c.d/len` can fail although another text of the
        same network passes them (`StrOpts.canonSafe`: pattern, `min_len > 9`, `max_len < 18`, choices not closed under
        canonicalisation, a character strip that strips digits): finding F22 — `ipv4net_*_needed`;
    (3) `FilenameField` with a non-empty start directory TOGETHER WITH string options: the options are checked on the text
        as given, the resolved path that is held can violate them (finding F25, `filename_startdir_options_needed`).
        Without string options a start directory is covered (`filename_startdir_accepted`): under a start directory `Sat`
        asks the held path to be empty or absolute (`filename_startdir_held_absolute`), and an absolute path is not resolved
        again; a relative path does not satisfy the declaration there (`filename_startdir_relative_not_sat`).
  NOT excluded: `ChallengeField` — `Sat` holds of digest values only, and a digest value is
  accepted as it is (a plaintext does not satisfy `Sat`; its result depends on the salt the environment returns next:
  `challenge_plaintext_not_sat`, `challenge_plaintext_result`); `SecureField` — validation keeps the text (encryption
  happens when saving); a custom validator on the `AnyField` item of a list (such items are never validated).
  `EnvOk` is needed for the soundness half only.
-/
namespace Cinco.C05c
open Cinco Cinco.Field Cinco.Num Cinco.Str

/-- **A value that satisfies what the field declares is accepted, and returned as it is** — every kind, every option in
    `CompleteOk`, nested typed lists and dicts at every depth.  (No assumption on the environment is needed.) -/
theorem satisfying_value_is_accepted (E : Env) (f : FieldSpec) (v : Val) (hf : CompleteOk f = true) (h : Sat E f v) :
    validate E f v = .ok v :=
  validate_complete E f v hf h

/-- **Validation accepts exactly the values that meet the declared constraints**: the set of results of validation (over
    all inputs of all types) is the set of values satisfying the declaration.
    `→` is soundness (C05b, any declaration), `←` is completeness (the value itself is an input that produces it). -/
theorem accepts_exactly (E : Env) (hE : EnvOk E) (f : FieldSpec) (v : Val) (hf : CompleteOk f = true) :
    (∃ v0, validate E f v0 = .ok v) ↔ Sat E f v :=
  ⟨fun ⟨v0, h⟩ => validate_sound E hE f v0 v h, fun h => ⟨v, validate_complete E f v hf h⟩⟩

/-- the values satisfying the declaration are exactly the fixed points of validation -/
theorem fixed_points_exactly (E : Env) (hE : EnvOk E) (f : FieldSpec) (v : Val) (hf : CompleteOk f = true) :
    validate E f v = .ok v ↔ Sat E f v :=
  ⟨fun h => validate_sound E hE f v v h, fun h => validate_complete E f v hf h⟩

/-- **Whatever is rejected does not meet the declaration as it stands** (whatever the error). -/
theorem rejected_means_no_normal_form (E : Env) (f : FieldSpec) (v : Val) (e : Err) (hf : CompleteOk f = true)
    (h : validate E f v = .error e) : ¬ Sat E f v := by
  intro hs
  rw [validate_complete E f v hf hs] at h
  cases h

/-- an input that validation *changes* did not meet the declaration as it stood (it was not in normal form) -/
theorem changed_means_no_normal_form (E : Env) (f : FieldSpec) (v v' : Val) (hf : CompleteOk f = true)
    (h : validate E f v = .ok v') (hne : v' ≠ v) : ¬ Sat E f v := by
  intro hs
  rw [validate_complete E f v hf hs] at h
  cases h
  exact hne rfl

/-- Idempotence again, from soundness and completeness alone.  `CompleteOk` covers every declaration in the guard `IdemOk`
    of `C05.validate_idem` (`idemOk_within_completeOk`) and more: an `IPv4NetworkField` with a case transform, whitespace
    strip, harmless length bounds, closed choices; a custom validator on the `AnyField` item of a list. -/
theorem validate_idem_of_complete (E : Env) (hE : EnvOk E) (f : FieldSpec) (v v' : Val) (hf : CompleteOk f = true)
    (h : validate E f v = .ok v') : validate E f v' = .ok v' :=
  validate_complete E f v' hf (validate_sound E hE f v v' h)

theorem idemOk_within_completeOk (f : FieldSpec) (h : IdemOk f = true) : CompleteOk f = true :=
  completeOk_of_idemOk f h

/-- an `IntField` given an int: the bounds check, and nothing else -/
theorem validate_int_int (E : Env) (req : Bool) (mn mx : Option Num) (i : Int) :
    validate E (.mk (.int mn mx) req none) (.int i) = if checkBounds mn mx (ofInt i) then .ok (.int i) else .error .value := by
  rw [validate_of_ne_none E _ req none (.int i) (by simp)]
  simp only [validateKind, intRule]
  cases checkBounds mn mx (ofInt i) <;> rfl

/-- **An int is accepted within its integer bounds, and ONLY there**: acceptance of an int is exactly `min ≤ i ≤ max` -/
theorem int_accepted_iff (E : Env) (req : Bool) (mn mx i : Int) :
    validate E (.mk (.int (some (.int mn)) (some (.int mx))) req none) (.int i) = .ok (.int i) ↔ mn ≤ i ∧ i ≤ mx := by
  rw [validate_int_int, ← notBelow_int_int, ← notAbove_int_int, ← checkBounds_iff]
  split <;> simp [*]

/-- an int within its integer bounds is accepted (and stays what it is) -/
theorem int_within_bounds_accepted (E : Env) (req : Bool) (mn mx i : Int) (h1 : mn ≤ i) (h2 : i ≤ mx) :
    validate E (.mk (.int (some (.int mn)) (some (.int mx))) req none) (.int i) = .ok (.int i) :=
  (int_accepted_iff E req mn mx i).2 ⟨h1, h2⟩

/-- with only a lower bound -/
theorem int_at_least_min_accepted (E : Env) (req : Bool) (mn i : Int) (h : mn ≤ i) :
    validate E (.mk (.int (some (.int mn)) none) req none) (.int i) = .ok (.int i) :=
  satisfying_value_is_accepted E _ _ rfl (Or.inr ⟨by simp, i, rfl, (notBelow_int_int i mn).2 h, trivial⟩)

/-- with only an upper bound -/
theorem int_at_most_max_accepted (E : Env) (req : Bool) (mx i : Int) (h : i ≤ mx) :
    validate E (.mk (.int none (some (.int mx))) req none) (.int i) = .ok (.int i) :=
  satisfying_value_is_accepted E _ _ rfl (Or.inr ⟨by simp, i, rfl, trivial, (notAbove_int_int i mx).2 h⟩)

/-- the boundary values themselves are accepted -/
theorem int_min_boundary_accepted (E : Env) (req : Bool) (mn mx : Int) (h : mn ≤ mx) :
    validate E (.mk (.int (some (.int mn)) (some (.int mx))) req none) (.int mn) = .ok (.int mn) :=
  int_within_bounds_accepted E req mn mx mn (Int.le_refl _) h

theorem int_max_boundary_accepted (E : Env) (req : Bool) (mn mx : Int) (h : mn ≤ mx) :
    validate E (.mk (.int (some (.int mn)) (some (.int mx))) req none) (.int mx) = .ok (.int mx) :=
  int_within_bounds_accepted E req mn mx mx h (Int.le_refl _)

/-- **A bound of zero is a bound like any other**: `IntField(min=0)` accepts 0 -/
theorem int_zero_bound_accepts_zero (E : Env) (req : Bool) :
    validate E (.mk (.int (some (.int 0)) none) req none) (.int 0) = .ok (.int 0) :=
  int_at_least_min_accepted E req 0 0 (Int.le_refl _)

/-- `IntField(min=0)` rejects everything below 0: the bound is not ignored for being falsy -/
theorem int_zero_bound_rejects_negative (E : Env) (req : Bool) (i : Int) (h : i < 0) :
    validate E (.mk (.int (some (.int 0)) none) req none) (.int i) = .error .value := by
  rw [validate_int_int, if_neg]
  rw [checkBounds_iff, notBelow_int_int]
  omega

/-- `IntField(max=0)` accepts 0 -/
theorem int_zero_max_accepts_zero (E : Env) (req : Bool) :
    validate E (.mk (.int none (some (.int 0))) req none) (.int 0) = .ok (.int 0) :=
  int_at_most_max_accepted E req 0 0 (Int.le_refl _)

/-- **A text within its length bounds, already case- and strip-normal, among the choices and matching the pattern is
    accepted unchanged** (each hypothesis only for the options that are set; `required` asks for a non-empty text). -/
theorem string_normal_form_accepted (E : Env) (o : StrOpts) (req : Bool) (s : Str)
    (hreq : req = true → s ≠ [])
    (hmin : ∀ m, o.minLen = some m → m ≤ (s.length : Int))
    (hmax : ∀ m, o.maxLen = some m → (s.length : Int) ≤ m)
    (hre : ∀ r, o.regex = some r → Regex.isMatch r s = true)
    (hch : o.choices ≠ [] → s ∈ o.choices)
    (hcase : match o.case with | none => True | some .lower => lower s = s | some .upper => upper s = s)
    (hstrip : match o.strip with | .off => True | .ws => strip s = s | .chars cs => stripChars cs s = s) :
    validate E (.mk (.string o) req none) (.str s) = .ok (.str s) := by
  obtain ⟨_, _, _, _, cs, st⟩ := o
  have hc : CaseNormal cs s := by rcases cs with _ | _ | _ <;> exact hcase
  have hs : StripNormal st s := by cases st <;> exact hstrip
  exact satisfying_value_is_accepted E _ _ rfl (sat_str_iff.2 ⟨hreq, hmin, hmax, hre, hch, hc, hs⟩)

/-- **`None` is accepted iff the field is not required** — both directions, for every kind (and whatever custom validator:
    no validator runs on `None`). -/
theorem none_accepted_iff_not_required (E : Env) (k : Kind) (req : Bool) (c : Option String) :
    validate E (.mk k req c) .none = .ok .none ↔ req = false := by
  rw [validate_none_eq]
  cases req <;> simp

theorem none_rejected_iff_required (E : Env) (k : Kind) (req : Bool) (c : Option String) :
    validate E (.mk k req c) .none = .error .value ↔ req = true := by
  rw [validate_none_eq]
  cases req <;> simp

/-- acceptance of `None` and satisfaction by `None` coincide -/
theorem none_accepted_iff_sat (E : Env) (k : Kind) (req : Bool) :
    validate E (.mk k req none) .none = .ok .none ↔ Sat E (.mk k req none) .none := by
  rw [none_accepted_iff_not_required, sat_none_iff]

/-- `ChallengeField`: an already-stored digest is accepted as it is (this is all `Sat` contains, so the kind is covered) -/
theorem challenge_digest_accepted (E : Env) (alg : String) (req : Bool) (salt dig : Bytes) (a : String) :
    validate E (.mk (.challenge alg) req none) (.digest salt dig a) = .ok (.digest salt dig a) :=
  satisfying_value_is_accepted E _ _ rfl (Or.inr ⟨by simp, salt, dig, a, rfl⟩)

/-- a plaintext never satisfies a `ChallengeField` (it is not of the stored type): completeness is silent about it -/
theorem challenge_plaintext_not_sat (E : Env) (alg : String) (req : Bool) (s : Str) :
    ¬ Sat E (.mk (.challenge alg) req none) (.str s) := by
  rintro (⟨h, _⟩ | ⟨_, _, _, _, h⟩) <;> cases h

/-- what validation returns for a plaintext is determined by the input only together with the salt the environment returns next -/
theorem challenge_plaintext_result (E : Env) (alg : String) (req : Bool) (s : Str) :
    validate E (.mk (.challenge alg) req none) (.str s) =
      .ok (.digest (E.salt alg) (E.hash alg (E.salt alg ++ E.utf8 s)) alg) := by
  rw [validate_of_ne_none E _ req none (.str s) (by simp)]
  simp [validateKind, challengeRule]

/-- `SecureField`: validation keeps the text as it is (non-empty when required); the cipher is applied when saving -/
theorem secure_text_accepted (E : Env) (method : String) (req : Bool) (s : Str) (h : req = true → s ≠ []) :
    validate E (.mk (.secure method) req none) (.str s) = .ok (.str s) :=
  satisfying_value_is_accepted E _ _ rfl (Or.inr ⟨by simp, s, rfl, h⟩)

/-- **`FilenameField(startdir=…)` without string options is covered**: a path satisfying the declaration (with a non-empty
    start directory: empty or absolute, and meeting the existence constraint) is accepted as it is, whatever the start
    directory. -/
theorem filename_startdir_accepted (E : Env) (o : StrOpts) (ho : o.plain = true) (ex : Exists) (sd : Option Str)
    (req : Bool) (v : Val) (h : Sat E (.mk (.filename o ex sd) req none) v) :
    validate E (.mk (.filename o ex sd) req none) v = .ok v :=
  satisfying_value_is_accepted E _ _ (by simp [CompleteOk, CompleteOkKind, ho]) h

/-- the clause of `Sat` that makes this true: under a non-empty start directory a held path is empty or absolute
    (`os.path.isabs`) — a relative text is never held there, validation resolves it -/
theorem filename_startdir_held_absolute (E : Env) (o : StrOpts) (ex : Exists) (d : Str) (hd : d ≠ []) (req : Bool) (s : Str)
    (h : Sat E (.mk (.filename o ex (some d)) req none) (.str s)) : s = [] ∨ E.isabs s = true := by
  obtain ⟨h, _⟩ | ⟨_, s', hs', _, _, habs, _⟩ := h
  · cases h
  · cases hs'
    exact habs d rfl hd

namespace Demo
open Cinco.C05 Cinco.Field.SoundExamples

/-- `env0` with a URL parser that accepts everything -/
def envU : Env := { env0 with urlOk := fun _ => true }
/-- `env0` with a validator catalogue that rejects everything -/
def envR : Env := { env0 with custom := fun _ _ => .error .value }

/-- `env0` with `resolve d t = "/" + d + "/" + t` -/
def envD : Env := { env0 with resolve := fun d t => '/' :: (d ++ '/' :: t) }

theorem envOk_envU : EnvOk envU := ⟨fun sd t => by simp [envU, env0], by simp [envU, env0]⟩
theorem envOk_envD : EnvOk envD := ⟨fun sd t => by simp [envD, env0], by simp [envD, env0]⟩

/-! The exclusions are needed: a value satisfying the declaration that is not accepted unchanged -/

/-- shape of every counter-example: the declaration is outside `CompleteOk`, the value satisfies it, validation does not return it -/
def Refutes (E : Env) (f : FieldSpec) (v : Val) : Prop := CompleteOk f = false ∧ Sat E f v ∧ validate E f v ≠ .ok v

/-- custom validator on the field: `Sat` is `True`, yet `IntField(validator=…)` rejects the text `x` before the validator runs -/
theorem custom_validator_needed : Refutes env0 (.mk (.int none none) false (some "c")) (.str "x".toList) :=
  ⟨by decide +kernel, trivial, by decide +kernel⟩

/-- custom validator on an `AnyField`: it is the validator itself that may reject (or change) anything -/
theorem custom_validator_needed_any : Refutes envR (.mk .any false (some "c")) (.int 1) :=
  ⟨by decide +kernel, trivial, by decide +kernel⟩

/-- custom validator on the item field of a typed list -/
theorem custom_validator_needed_item :
    Refutes env0 (.mk (.list (some (.mk (.int none none) false (some "c")))) false none) (.list [.str "x".toList]) := by
  refine ⟨by decide +kernel, Or.inr ⟨by simp, ?_⟩, by decide +kernel⟩
  exact ⟨_, rfl, by simp, fun x _ => by simp only [SatOpt, Sat]⟩

/-- custom validator on the value field of a dict (the key field is `AnyField`) -/
theorem custom_validator_needed_value :
    Refutes envR (.mk (.dict none (some (.mk .any false (some "c")))) false none) (.dict [(.int 1, .int 2)]) := by
  refine ⟨by decide +kernel, Or.inr ⟨by simp, ?_⟩, by decide +kernel⟩
  exact ⟨_, rfl, by simp, fun kv _ => by simp only [SatOpt, Sat, and_self], fun _ => by simp [keysD]⟩

/-- a custom validator on the `AnyField` item of a list is NOT excluded: the items are not validated at all -/
example : CompleteOk (.mk (.list (some (.mk .any true (some "c")))) true none) = true := by decide +kernel

/-- a counter-example read off a run: `v` is what the field returned for some input (so it satisfies the declaration), and the
    field does not return it for `v` itself -/
theorem Refutes.of_result {f : FieldSpec} {v : Val} (v0 : Val) (hf : CompleteOk f = false)
    (h0 : validate env0 f v0 = .ok v) (h : validate env0 f v ≠ .ok v) : Refutes env0 f v :=
  ⟨hf, validate_sound env0 envOk_env0 f v0 v h0, h⟩

/-- F22 with `max_len = 8`: `10.0.0.1` is held as `10.0.0.1/32` (11 characters), which the field rejects -/
theorem ipv4net_maxLen_needed : Refutes env0 (.mk (.ipv4net { maxLen := some 8 } none none) false none) (.str "10.0.0.1/32".toList) :=
  .of_result (.str "10.0.0.1".toList) (by decide +kernel) (by decide +kernel) (by decide +kernel)

/-- `min_len = 12`: `10.0.0.0/255.0.0.0` is held as `10.0.0.0/8` -/
theorem ipv4net_minLen_needed : Refutes env0 (.mk (.ipv4net { minLen := some 12 } none none) false none) (.str "10.0.0.0/8".toList) :=
  .of_result (.str "10.0.0.0/255.0.0.0".toList) (by decide +kernel) (by decide +kernel) (by decide +kernel)

/-- a pattern (`[^/]*\Z`: no slash): the canonical text always has one -/
theorem ipv4net_regex_needed :
    Refutes env0 (.mk (.ipv4net { regex := some (.seq (.rep 0 none (.notLit '/')) .eos) } none none) false none)
      (.str "10.0.0.1/32".toList) :=
  .of_result (.str "10.0.0.1".toList) (by decide +kernel) (by decide +kernel) (by decide +kernel)

/-- choices that are not closed under canonicalisation -/
theorem ipv4net_choices_needed :
    Refutes env0 (.mk (.ipv4net { choices := ["10.0.0.1".toList] } none none) false none) (.str "10.0.0.1/32".toList) :=
  .of_result (.str "10.0.0.1".toList) (by decide +kernel) (by decide +kernel) (by decide +kernel)

/-- a character strip that strips a digit: the held `10.0.0.1/32` is stripped to `10.0.0.1/3`, which is no network -/
theorem ipv4net_stripChars_needed :
    Refutes env0 (.mk (.ipv4net { strip := .chars "2".toList } none none) false none) (.str "10.0.0.1/32".toList) :=
  .of_result (.str "10.0.0.1".toList) (by decide +kernel) (by decide +kernel) (by decide +kernel)

/-- `FilenameField(startdir='d')`, no options at all: covered (point (3) of the head comment) -/
def fileInD : FieldSpec := .mk (.filename {} .any (some "d".toList)) false none

/-- what a start directory excludes is a RELATIVE held path: validation changes it, so it does not satisfy the declaration -/
theorem filename_startdir_relative_not_sat : ¬ Sat envD fileInD (.str "a".toList) :=
  changed_means_no_normal_form envD fileInD _ (.str "/d/a".toList) (by decide +kernel) (by decide +kernel) (by decide +kernel)

/-- the declaration of F25: `FilenameField(startdir='d', max_len=1)` -/
def fileInDMax1 : FieldSpec := .mk (.filename { maxLen := some 1 } .any (some "d".toList)) false none

/-- F25: with a string option (`max_len = 1`) even the absolute path `/a` that the field itself returned for `a` is rejected -/
theorem filename_startdir_options_needed : Refutes env0 fileInDMax1 (.str "/a".toList) :=
  .of_result (.str "a".toList) (by decide +kernel) (by decide +kernel) (by decide +kernel)

/-- a typed list / dict inherits the exclusion of its item / key / value field -/
theorem item_exclusion_needed :
    Refutes env0 (.mk (.list (some (.mk (.ipv4net { maxLen := some 8 } none none) false none))) false none)
      (.list [.str "10.0.0.1/32".toList]) :=
  .of_result (.tuple [.str "10.0.0.1".toList]) (by decide +kernel) (by decide +kernel) (by decide +kernel)

theorem value_exclusion_needed :
    Refutes env0 (.mk (.dict none (some fileInDMax1)) false none) (.dict [(.int 1, .str "/a".toList)]) :=
  .of_result (.dict [(.int 1, .str "a".toList)]) (by decide +kernel) (by decide +kernel) (by decide +kernel)

/-! The hypotheses are satisfiable, kind by kind: the declaration is in `CompleteOk`, the value satisfies it (shown
    from an *un-normalised* input through soundness, or by hand), and — by the theorem — it is accepted unchanged -/

/-- one covered instance: from any input `v0` that validates to `v` -/
theorem covered (E : Env) (hE : EnvOk E) (f : FieldSpec) (v0 v : Val) (hf : CompleteOk f = true)
    (h0 : validate E f v0 = .ok v) : CompleteOk f = true ∧ Sat E f v ∧ validate E f v = .ok v :=
  ⟨hf, validate_sound E hE f v0 v h0, satisfying_value_is_accepted E f v hf (validate_sound E hE f v0 v h0)⟩

/-- any: `AnyField(required=True)` -/
example : CompleteOk (.mk .any true none) = true ∧ Sat env0 (.mk .any true none) (.opaque "object") ∧
    validate env0 (.mk .any true none) (.opaque "object") = .ok (.opaque "object") :=
  covered env0 envOk_env0 _ (.opaque "object") _ (by decide +kernel) (by decide +kernel)

/-- string, `Sat` by hand: `StringField(transform_strip=True, transform_case='lower', max_len=5, required=True)` -/
example : Sat env0 strField (.str "hello".toList) :=
  sat_str_iff.2 (strSat_iff_checks.2 ⟨by decide +kernel, by decide +kernel⟩)
example : CompleteOk strField = true ∧ Sat env0 strField (.str "hello".toList) ∧
    validate env0 strField (.str "hello".toList) = .ok (.str "hello".toList) :=
  covered env0 envOk_env0 _ (.str "  HeLLo \n".toList) _ (by decide +kernel) (by decide +kernel)

/-- string with character strip, case, pattern and choices -/
def strAll : FieldSpec :=
  .mk (.string { strip := .chars "x".toList, case := some .upper, minLen := some 2, maxLen := some 3,
                 regex := some (.seq (.rep 1 none (.cls false [.range 'A' 'Z'])) .eos),
                 choices := ["ABC".toList, "DE".toList] }) true none
example : CompleteOk strAll = true ∧ Sat env0 strAll (.str "ABC".toList) ∧
    validate env0 strAll (.str "ABC".toList) = .ok (.str "ABC".toList) :=
  covered env0 envOk_env0 _ (.str "xxabcx".toList) _ (by decide +kernel) (by decide +kernel)

/-- int, `Sat` by hand: `IntField(min=0)` at its bound 0 -/
example : Sat env0 intMin0 (.int 0) :=
  Or.inr ⟨by simp, 0, rfl, (notBelow_int_int 0 0).2 (Int.le_refl _), trivial⟩
example : CompleteOk intMin0 = true ∧ Sat env0 intMin0 (.int 0) ∧ validate env0 intMin0 (.int 0) = .ok (.int 0) :=
  covered env0 envOk_env0 _ (.flt (.dy 1 (-1))) _ (by decide +kernel) (by decide +kernel)

/-- float with an int and a float bound -/
example :
    let f : FieldSpec := .mk (.float (some (.int 0)) (some (.flt (.dy 7 0)))) true none
    CompleteOk f = true ∧ Sat env0 f (.flt (.dy 3 0)) ∧ validate env0 f (.flt (.dy 3 0)) = .ok (.flt (.dy 3 0)) :=
  covered env0 envOk_env0 _ (.int 3) _ (by decide +kernel) (by decide +kernel)

example : CompleteOk (.mk .bool true none) = true ∧ Sat env0 (.mk .bool true none) (.bool true) ∧
    validate env0 (.mk .bool true none) (.bool true) = .ok (.bool true) :=
  covered env0 envOk_env0 _ (.str "yes".toList) _ (by decide +kernel) (by decide +kernel)

example : CompleteOk (.mk (.bytes .hex) true none) = true ∧ Sat env0 (.mk (.bytes .hex) true none) (.bytes [1, 2]) ∧
    validate env0 (.mk (.bytes .hex) true none) (.bytes [1, 2]) = .ok (.bytes [1, 2]) :=
  covered env0 envOk_env0 _ (.bytes [1, 2]) _ (by decide +kernel) (by decide +kernel)

/-- ipv4 address with the whitespace strip -/
example :
    let f : FieldSpec := .mk (.ipv4addr { strip := .ws }) true none
    CompleteOk f = true ∧ Sat env0 f (.str "10.0.0.1".toList) ∧ validate env0 f (.str "10.0.0.1".toList) = .ok (.str "10.0.0.1".toList) :=
  covered env0 envOk_env0 _ (.str " 10.0.0.1 ".toList) _ (by decide +kernel) (by decide +kernel)

/-- ipv4 network WITH string options inside `canonSafe` (case, whitespace strip, harmless length bounds, closed choices)
    and prefix bounds: outside the guard of `validate_idem`, covered here -/
def netOpts : FieldSpec :=
  .mk (.ipv4net { case := some .upper, strip := .ws, minLen := some 9, maxLen := some 18,
                  choices := ["10.0.0.0/255.0.0.0".toList, "10.0.0.0/8".toList] } (some 8) (some 8)) true none
example : CompleteOk netOpts = true ∧ IdemOk netOpts = false ∧ Sat env0 netOpts (.str "10.0.0.0/8".toList) ∧
    validate env0 netOpts (.str "10.0.0.0/8".toList) = .ok (.str "10.0.0.0/8".toList) :=
  have h := covered env0 envOk_env0 _ (.str "10.0.0.0/255.0.0.0".toList) (.str "10.0.0.0/8".toList) (by decide +kernel) (by decide +kernel)
  ⟨h.1, by decide, h.2⟩

/-- ipv4 network with a character strip that strips no digit; `max_prefix_len = 0` -/
example :
    let f : FieldSpec := .mk (.ipv4net { strip := .chars "/. x".toList } none (some 0)) true none
    CompleteOk f = true ∧ Sat env0 f (.str "0.0.0.0/0".toList) ∧ validate env0 f (.str "0.0.0.0/0".toList) = .ok (.str "0.0.0.0/0".toList) :=
  covered env0 envOk_env0 _ (.str "x0.0.0.0/0.0.0.0 ".toList) _ (by decide +kernel) (by decide +kernel)

/-- hostname: a name, and (allowed) an address -/
example :
    let f : FieldSpec := .mk (.hostname { case := some .lower } true) true none
    CompleteOk f = true ∧ Sat env0 f (.str "example.com".toList) ∧ validate env0 f (.str "example.com".toList) = .ok (.str "example.com".toList) :=
  covered env0 envOk_env0 _ (.str "Example.COM".toList) _ (by decide +kernel) (by decide +kernel)
example :
    let f : FieldSpec := .mk (.hostname {} true) true none
    CompleteOk f = true ∧ Sat env0 f (.str "10.0.0.1".toList) ∧ validate env0 f (.str "10.0.0.1".toList) = .ok (.str "10.0.0.1".toList) :=
  covered env0 envOk_env0 _ (.str "10.0.0.1".toList) _ (by decide +kernel) (by decide +kernel)

/-- filename without start directory / with the empty one, `exists=False` (nothing exists in `env0`) -/
example :
    let f : FieldSpec := .mk (.filename { strip := .ws } .no none) true none
    CompleteOk f = true ∧ Sat env0 f (.str "a/b".toList) ∧ validate env0 f (.str "a/b".toList) = .ok (.str "a/b".toList) :=
  covered env0 envOk_env0 _ (.str " a/b ".toList) _ (by decide +kernel) (by decide +kernel)
example :
    let f : FieldSpec := .mk (.filename { strip := .ws } .no (some [])) true none
    CompleteOk f = true ∧ Sat env0 f (.str "a/b".toList) ∧ validate env0 f (.str "a/b".toList) = .ok (.str "a/b".toList) :=
  covered env0 envOk_env0 _ (.str " a/b ".toList) _ (by decide +kernel) (by decide +kernel)

/-- filename WITH a start directory, no string options: `FilenameField(startdir='d')` holds `/d/a` (from the input `a`) -/
example : CompleteOk fileInD = true ∧ Sat envD fileInD (.str "/d/a".toList) ∧
    validate envD fileInD (.str "/d/a".toList) = .ok (.str "/d/a".toList) :=
  covered envD envOk_envD _ (.str "a".toList) _ (by decide +kernel) (by decide +kernel)
/-- filename with a start directory, `exists=False` and `required=True`, from an input that is already absolute -/
example :
    let f : FieldSpec := .mk (.filename {} .no (some "d".toList)) true none
    CompleteOk f = true ∧ Sat envD f (.str "/x".toList) ∧ validate envD f (.str "/x".toList) = .ok (.str "/x".toList) :=
  covered envD envOk_envD _ (.str "/x".toList) _ (by decide +kernel) (by decide +kernel)
/-- `accepts_exactly` for `FilenameField(startdir='d')`: `/d/a` is a result, the relative `a` is not -/
example : ¬ ∃ v0, validate envD fileInD v0 = .ok (.str "a".toList) := fun h =>
  filename_startdir_relative_not_sat ((accepts_exactly envD envOk_envD fileInD _ (by decide +kernel)).1 h)

/-- url (in an environment whose URL parser accepts) -/
example :
    let f : FieldSpec := .mk (.url { case := some .lower }) true none
    CompleteOk f = true ∧ Sat envU f (.str "http://x".toList) ∧ validate envU f (.str "http://x".toList) = .ok (.str "http://x".toList) :=
  covered envU envOk_envU _ (.str "HTTP://x".toList) _ (by decide +kernel) (by decide +kernel)

/-- challenge: the digest produced from a plaintext -/
example :
    let f : FieldSpec := .mk (.challenge "sha256") true none
    CompleteOk f = true ∧ Sat env0 f (.digest [] [] "sha256") ∧ validate env0 f (.digest [] [] "sha256") = .ok (.digest [] [] "sha256") :=
  covered env0 envOk_env0 _ (.str "pw".toList) _ (by decide +kernel) (by decide +kernel)

example :
    let f : FieldSpec := .mk (.secure "aes") true none
    CompleteOk f = true ∧ Sat env0 f (.str "pw".toList) ∧ validate env0 f (.str "pw".toList) = .ok (.str "pw".toList) :=
  covered env0 envOk_env0 _ (.str "pw".toList) _ (by decide +kernel) (by decide +kernel)

/-- untyped list: a tuple stays a tuple -/
example :
    let f : FieldSpec := .mk (.list none) true none
    CompleteOk f = true ∧ Sat env0 f (.tuple [.none, .int 1]) ∧ validate env0 f (.tuple [.none, .int 1]) = .ok (.tuple [.none, .int 1]) :=
  covered env0 envOk_env0 _ (.tuple [.none, .int 1]) _ (by decide +kernel) (by decide +kernel)

/-- typed list: `ListField(PortField(required=True), required=True)` -/
example : CompleteOk ports = true ∧ Sat env0 ports (.list [.int 80, .int 443, .int 8080]) ∧
    validate env0 ports (.list [.int 80, .int 443, .int 8080]) = .ok (.list [.int 80, .int 443, .int 8080]) :=
  covered env0 envOk_env0 _ (.tuple [.str " 80".toList, .int 443, .flt (.dy 1010 3)]) _ (by decide +kernel) (by decide +kernel)

/-- nested: a dict from lower-case names to optional lists of non-negative ints -/
example :
    let f : FieldSpec := .mk (.dict (some (.mk (.string { case := some .lower }) true none))
      (some (.mk (.list (some (.mk (.int (some (.int 0)) none) true none))) false none))) true none
    let v : Val := .dict [(.str "a".toList, .list [.int 0, .int 5]), (.str "b".toList, .none)]
    CompleteOk f = true ∧ Sat env0 f v ∧ validate env0 f v = .ok v :=
  covered env0 envOk_env0 _ (.dict [(.str "A".toList, .tuple [.str "0".toList, .int 5]), (.str "b".toList, .list [.int 1]),
    (.str "B".toList, .none)]) _ (by decide +kernel) (by decide +kernel)

/-- a rejected value does not satisfy the declaration: 65536 is not a port -/
example : ¬ Sat env0 ports (.list [.int 80, .int 65536]) :=
  rejected_means_no_normal_form env0 ports _ .value (by decide +kernel) (by decide +kernel)

/-- an input that is changed was not in normal form -/
example : ¬ Sat env0 strField (.str " hello".toList) :=
  changed_means_no_normal_form env0 strField _ (.str "hello".toList) (by decide +kernel) (by decide +kernel) (by decide +kernel)

/-- `accepts_exactly`, right to left: the value is produced by some input (itself) -/
example : ∃ v0, validate env0 ports v0 = .ok (.list [.int 1]) :=
  (accepts_exactly env0 envOk_env0 ports _ (by decide +kernel)).2
    (validate_sound env0 envOk_env0 ports (.tuple [.str "1".toList]) _ (by decide +kernel))

end Demo

end Cinco.C05c
