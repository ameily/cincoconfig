import Cinco.Proofs.Cfg
/-
  C15 — every rejection is a validation error that names the offending field's full path.
-/
namespace Cinco.C15
open Cinco Cinco.Field Cinco.Config

/-- errors of field validation are always turned into the library's ValidationError -/
theorem fieldErr_is_validation (path k : String) (e : Field.Err) : ∃ p, fieldErr path k e = .validation p := by
  cases e <;> exact ⟨_, rfl⟩

/-- the reference path of a (non-entry) field error is exactly the configuration's path joined with the key -/
theorem fieldErr_path (path k : String) (e : Field.Err) (h : ∀ key, e ≠ .entry key) : fieldErr path k e = .validation (joinPath path k) := by
  cases e <;> first | rfl | exact absurd rfl (h _)

/-- entry errors of typed dicts carry the key in brackets after that path -/
theorem fieldErr_entry_path (path k : String) (key : Val) :
    ∃ suffix, fieldErr path k (.entry key) = .validation (joinPath path k ++ "[" ++ suffix ++ "]") := ⟨_, rfl⟩

/-- **Every rejection of a value for a declared leaf field is a ValidationError** — whatever the type or shape of the value
    (including a configuration object) — and so is every rejected assignment to a virtual or instance-method field. -/
theorem leaf_rejection_is_validation (W : World) (fuel : Nat) (s : Schema) (path : String) (c : Cfg) (k : String) (a : Arg) (n : Nat)
    (f : SField) (hf : s.get k = some f) (hleaf : match f with | .leaf _ _ => True | .virtual _ _ => True | .method => True | _ => False)
    (e : CErr) (herr : (setValue W (fuel + 1) s path c k a n).err = some e) : ∃ p, e = .validation p := by
  cases f with
  | leaf fs m =>
    rw [setValue_leaf W fuel s path c k a n hf] at herr
    cases hv : validate W.fe.toEnv fs a.value with
    | ok v' => rw [hv] at herr; cases herr
    | error fe => rw [hv] at herr; cases herr; exact fieldErr_is_validation path k fe
  | virtual cst hs =>
    unfold setValue at herr
    simp only [getField_some c hf] at herr
    cases hs <;> cases herr
    exact ⟨_, rfl⟩
  | method =>
    unfold setValue at herr
    simp only [getField_some c hf] at herr
    cases herr
    exact ⟨_, rfl⟩
  | _ => exact absurd hleaf id

/-- **The rejection of a value for a declared leaf field names the full path**: the configuration's own reference path joined
    with the field key (for a rejected entry of a typed dict, followed by the key in brackets). -/
theorem leaf_rejection_path (W : World) (fuel : Nat) (s : Schema) (path : String) (c : Cfg) (k : String) (v : Val) (n : Nat)
    (fs : FieldSpec) (m : LeafMeta) (hf : s.get k = some (.leaf fs m)) (e : CErr)
    (herr : (setValue W (fuel + 1) s path c k (.val v) n).err = some e) :
    e = .validation (joinPath path k) ∨ ∃ suffix, e = .validation (joinPath path k ++ "[" ++ suffix ++ "]") := by
  rw [setValue_leaf W fuel s path c k _ n hf] at herr
  cases hv : validate W.fe.toEnv fs (Arg.val v).value with
  | ok v' => rw [hv] at herr; cases herr
  | error fe =>
    rw [hv] at herr
    cases herr
    cases fe with
    | entry key => exact .inr (fieldErr_entry_path path k key)
    | _ => exact .inl rfl

/-- a map, a configuration or anything else assigned to a sub-configuration slot: the slot itself is named when the value
    cannot be coerced or is a configuration of another schema -/
theorem sub_rejection_scalar (W : World) (fuel : Nat) (s' : Schema) (kf : Option String) (path : String) (c : Cfg) (k : String) (v : Val) (n : Nat)
    (hv : ∀ kvs, v ≠ .dict kvs) : (setSub W fuel s' kf path c k (.val v) n).err = some (.validation (joinPath path k)) := by
  unfold setSub
  cases v <;> first | rfl | exact absurd rfl (hv _)

/-- **Dotted paths accumulate**: an assignment through `a.b.c` is an assignment on the configuration reached by `a.b`
    whose own reference path is `a.b`, so a rejection of `c` there is reported as `a.b.c` (one step of the walk). -/
theorem setItem_descends (W : World) (fuel : Nat) (s : Schema) (path : String) (c : Cfg) (k rest : List Char) (a : Arg) (n : Nat)
    (s' : Schema) (kf : Option String) (sub : Cfg) (f : SField) (hk : '.' ∉ k) (hrest : rest ≠ [])
    (hf : s.get (String.ofList k) = some f) (hs : subSchema f = some (s', kf)) (hget : c.get (String.ofList k) = some (.node sub)) :
    (setItem W (fuel + 1) s path c (k ++ '.' :: rest) a n).err =
      (setItem W fuel s' (joinPath path (String.ofList k)) sub rest a n).err := by
  have hp : partitionDot (k ++ '.' :: rest) = (k, some rest) := partitionDot_append k rest hk
  have hre : rest.isEmpty = false := by cases rest <;> simp_all
  conv => lhs; unfold setItem
  simp only [hp, hre, Bool.false_eq_true, if_false, getField_some c hf, hs, hget]

end Cinco.C15
