import Cinco.Proofs.KeyfileLoad
import Cinco.Props.C03
/-
  C03 (continuation) — where key-file names come from after a build or a load (finding F19 in general), and the
  "one key file per tree" premise of `C03.reload_same_key_partial` derived for built and loaded configurations.
  First, still in the namespace of Proofs/KeyfileLoad.lean, the part of that development that needs key-file resolution
  (Config/Keys.lean) or the witness of Props/C03.lean: how `SchemaKeys` gets broken, one key file per tree, non-vacuity.
-/
namespace Cinco.Config.KeyfileLoad
open Cinco Cinco.Field Cinco.Config

/-- `cfg.k._key_filename = name` on a `.sub` slot breaks the parent's `SchemaKeys` (that is the state F19 is about);
    by `loadTree_schemaKeys` / `loadTree_schema_keys_at` a load of a map mentioning `k` silently undoes it -/
theorem setKeyAt_breaks (d : Nat) (s s' : Schema) (c sub : Cfg) (k name : String)
    (hf : s.get k = some (.sub s')) (hg : c.get k = some (.node sub)) :
    ∃ c', setKeyAt c [k] (some name) = some c' ∧ ¬ SchemaKeys (d + 1) s c' := by
  refine ⟨c.set k (.node (sub.withKeyfile (some name))), by simp [setKeyAt, hg], ?_⟩
  intro h
  have := h k _ hf
  rw [Cfg.get_set_same] at this
  exact absurd this.1 (by simp)

/-! ## one key file per tree, derived

If no `.ctype` field of the schema (at any depth) declares a key file, a configuration satisfying `SchemaKeys` names a key
file at most at its root, so the whole tree uses the root's effective key file: the premise `huni` of
`C03.reload_same_key_partial`. -/

def _root_.Cinco.Config.SField.noKey : SField → Bool
  | .ctype _ kf => kf.isNone
  | _ => true

def noCtypeKey (fs : List (String × SField)) : Bool := fs.all (fun kf => kf.2.noKey)

/-- no `ConfigTypeField` of the schema, at any depth (also inside lists of configurations), declares a key file (decidable) -/
def _root_.Cinco.Config.Schema.noDeclaredKey (s : Schema) : Bool := s.every noCtypeKey

theorem kids_every {P : List (String × SField) → Bool} {c : Cfg} {k : String} {f : SField} {s' : Schema} {kf : Option String}
    {x : Cfg} (hy : (s', kf, x) ∈ kids c (k, f)) : f.every P = s'.every P := by
  rcases mem_kids hy with ⟨hs, _⟩ | ⟨_, it, req, m, cs, rfl, _, _⟩
  · cases f <;> cases hs <;> rfl
  · rfl

theorem schemaKeys_kids {d : Nat} {s : Schema} {c : Cfg} (hnd : s.keysNodup = true) (h : SchemaKeys (d + 1) s c)
    {k : String} {f : SField} (hm : (k, f) ∈ s.fields) {s' : Schema} {kf : Option String} {x : Cfg}
    (hy : (s', kf, x) ∈ kids c (k, f)) : x.keyfile = kf ∧ SchemaKeys d s' x := by
  have hslot : SlotKeys d f (c.get k) := h k f (lookupField_of_mem (every_iff.mp hnd).1 hm)
  rcases mem_kids hy with ⟨hs, hg⟩ | ⟨hkf, it, req, m, cs, rfl, hg, hx⟩
  · rw [hg, slotKeys_node hs] at hslot; exact hslot
  · rw [hg] at hslot; rw [hkf]; exact hslot _ hx

theorem namedKeys_root_only : ∀ (d : Nat) (s : Schema) (c : Cfg),
    s.keysNodup = true → s.noDeclaredKey = true → SchemaKeys d s c → ∀ x ∈ namedKeys d s c, c.keyfile = some x := by
  intro d
  induction d with
  | zero => intro s c _ _ _ x hx; simp [namedKeys] at hx
  | succ d ih =>
    intro s c hnd hno hsk x hx
    rw [namedKeys, fieldNamed_eq, List.mem_append, List.mem_flatMap] at hx
    rcases hx with hx | ⟨y, hy, hx⟩
    · cases hkf : c.keyfile with
      | none => simp [hkf] at hx
      | some k0 => simp [hkf] at hx; rw [hx]
    · -- a child has the key file its field declares, that is none; so by induction nothing in it names `x`
      obtain ⟨⟨k, f⟩, hm, hyk⟩ := List.mem_flatMap.mp hy
      obtain ⟨s', kf, sub⟩ := y
      obtain ⟨hkf, hsk'⟩ := schemaKeys_kids hnd hsk hm hyk
      have hnd' : s'.keysNodup = true := (kids_every hyk).symm.trans (everyFields_mem (every_iff.mp hnd).2 hm)
      have hno' : s'.noDeclaredKey = true := (kids_every hyk).symm.trans (everyFields_mem (every_iff.mp hno).2 hm)
      have hnone : kf = none := by
        have hnk : f.noKey = true := List.all_eq_true.mp (every_iff.mp hno).1 _ hm
        rcases mem_kids hyk with ⟨hs, _⟩ | ⟨h, _⟩
        · rcases subSchema_some hs with rfl | rfl
          · cases hs; rfl
          · simpa [SField.noKey] using hnk
        · exact h
      have := ih s' sub hnd' hno' hsk' x hx
      rw [hkf, hnone] at this
      cases this

theorem namedKeys_subset_root (d : Nat) (s : Schema) (c : Cfg) (hnd : s.keysNodup = true) (hno : s.noDeclaredKey = true)
    (hsk : SchemaKeys d s c) : ∀ x ∈ namedKeys d s c, x ∈ c.keyfile.toList := by
  intro x hx
  rw [namedKeys_root_only d s c hnd hno hsk x hx]
  simp

/-- **One key file per tree**: every configuration of the tree uses the root's key file (the root's own if it names
    one, else the inherited/default one).  This is the premise `huni` of `C03.reload_same_key_partial`, with
    `k0 = effKey inh c`. -/
theorem one_key_per_tree (d : Nat) (inh : String) (s : Schema) (c : Cfg) (hnd : s.keysNodup = true)
    (hno : s.noDeclaredKey = true) (hsk : SchemaKeys d s c) : ∀ x ∈ nodeKeys d inh s c, x = effKey inh c := by
  intro x hx
  cases hkf : c.keyfile with
  | none =>
    have he : effKey inh c = inh := by simp [effKey, hkf]
    rcases nodeKeys_subset d inh s c x hx with h | h
    · rw [he]; exact h
    · have := namedKeys_root_only d s c hnd hno hsk x h
      rw [hkf] at this; cases this
  | some k0 =>
    have := namedKeys_root_only d s c hnd hno hsk x (nodeKeys_named_root d inh s c k0 hkf x hx)
    simp [effKey, this]

/-- one key file per tree for a freshly built configuration: every node uses the key file it was built with, else the inherited one -/
theorem built_one_key (W : World) (d : Nat) (inh path : String) (linked : Bool) (kf : Option String) (s : Schema)
    (n n' : Nat) (c : Cfg) (hnd : s.keysNodup = true) (hno : s.noDeclaredKey = true)
    (hb : build W path linked kf s n = .ok (c, n')) : ∀ x ∈ nodeKeys d inh s c, x = kf.getD inh := by
  intro x hx
  rw [one_key_per_tree d inh s c hnd hno (build_schemaKeys W d path linked kf s n c n' hnd hb) x hx]
  simp only [effKey, build_keyfile W path linked kf s n c n' hb]
  cases kf <;> rfl

/-- the hypothesis `noDeclaredKey` is needed: a `.ctype` that declares a key file makes a second key file in a built tree -/
theorem one_key_needs_noDeclaredKey (W : World) :
    let s : Schema := .mk [("a", .ctype (.mk [] false []) (some "K"))] false []
    s.keysNodup = true ∧ ∃ c n', build W "" false none s 0 = .ok (c, n') ∧ nodeKeys 2 "D" s c = ["D", "K"] := by
  refine ⟨by decide, _, _, rfl, ?_⟩
  simp [nodeKeys, fieldKeys, effKey, Schema.fields, Cfg.get, Cfg.slots, Cfg.setDefault, Cfg.set, Cfg.withSlots,
    Cfg.withDefaults, setSlot, getSlot, Cfg.keyfile]

theorem f19_load_succeeds :
    (loadTree rtWorld 2 C03.f19Schema "" C03.f19Cfg
        [(.str "sub".toList, .dict [(.str "x".toList, .bool false)])] true 5).err = none := by
  rw [C03.f19_loaded]

/-- the sub-configuration of the witness had `K2` assigned; after the (successful) load the general theorem gives `none` -/
example : ∃ node, (loadTree rtWorld 2 C03.f19Schema "" C03.f19Cfg
      [(.str "sub".toList, .dict [(.str "x".toList, .bool false)])] true 5).cfg.get "sub" = some (.node node) ∧
    node.keyfile = none :=
  loadTree_schema_keys_at rtWorld 2 C03.f19Schema "" C03.f19Cfg _ true 5 "sub" _ none (Or.inl ⟨rfl, rfl⟩)
    (by simp [treeKeys, keyName]) f19_load_succeeds

end Cinco.Config.KeyfileLoad

namespace Cinco.C03b
open Cinco Cinco.Field Cinco.Config Cinco.Config.KeyfileLoad

/-- a built configuration carries exactly the key file it was built with -/
theorem built_with (W : World) (path : String) (linked : Bool) (kf : Option String) (s : Schema) (n : Nat) (c : Cfg) (n' : Nat)
    (h : build W path linked kf s n = .ok (c, n')) : c.keyfile = kf :=
  build_keyfile W path linked kf s n c n' h

/-- a load never changes the key file of the configuration it loads into — whatever the tree, whatever the outcome -/
theorem load_keeps_own_keyfile (W : World) (fuel : Nat) (s : Schema) (path : String) (t : List (Val × Val)) (c : Cfg) (dv : Bool)
    (n : Nat) : (loadTree W fuel s path c t dv n).cfg.keyfile = c.keyfile :=
  loadTree_keyfile W fuel s path t c dv n

/-- **F19 in general**: a key file *assigned* to a plain sub-configuration is gone after any successful load that mentions the
    sub-configuration (the object is rebuilt from the schema).  `hold` and `hname` only name what was there: the proof does
    not ask. -/
theorem assigned_name_does_not_survive_load (W : World) (fuel : Nat) (s : Schema) (path : String) (c : Cfg) (t : List (Val × Val))
    (dv : Bool) (n : Nat) (k : String) (s' : Schema) (old : Cfg) (name : String)
    (hf : s.get k = some (.sub s')) (hold : c.get k = some (.node old)) (hname : old.keyfile = some name)
    (hmem : k ∈ treeKeys t) (hok : (loadTree W fuel s path c t dv n).err = none) :
    ∃ node, (loadTree W fuel s path c t dv n).cfg.get k = some (.node node) ∧ node.keyfile = none :=
  loadTree_schema_keys_at W fuel s path c t dv n k s' none (Or.inl ⟨hf, rfl⟩) hmem hok

/-- a key file *declared* by a config type comes back with any successful load that mentions the sub-configuration -/
theorem declared_name_survives_load (W : World) (fuel : Nat) (s : Schema) (path : String) (c : Cfg) (t : List (Val × Val))
    (dv : Bool) (n : Nat) (k : String) (s' : Schema) (kf : Option String)
    (hf : s.get k = some (.ctype s' kf)) (hmem : k ∈ treeKeys t) (hok : (loadTree W fuel s path c t dv n).err = none) :
    ∃ node, (loadTree W fuel s path c t dv n).cfg.get k = some (.node node) ∧ node.keyfile = kf :=
  declared_key_restored W fuel s path c t dv n k s' kf hf hmem hok

/-- a sub-configuration the loaded tree does not mention is left alone, key file included — whatever the outcome of the load -/
theorem unmentioned_subconfiguration_kept (W : World) (fuel : Nat) (s : Schema) (path : String) (c : Cfg) (t : List (Val × Val))
    (dv : Bool) (n : Nat) (k : String) (old : Cfg) (hold : c.get k = some (.node old)) (hmem : k ∉ treeKeys t) :
    (loadTree W fuel s path c t dv n).cfg.get k = some (.node old) := by
  rw [(loadTree_frame W fuel s path k t c dv n hmem).1, hold]

/-- **One key file per tree, derived**: a configuration freshly built from a schema whose config types declare no key file, and
    then loaded from any tree, uses the key file it was built with at every node — the premise of the reload theorem. -/
theorem built_and_loaded_use_one_key (W : World) (d fuel : Nat) (inh path : String) (linked : Bool) (kf : Option String) (s : Schema)
    (n0 n1 : Nat) (c0 : Cfg) (t : List (Val × Val)) (dv : Bool) (hnd : s.keysNodup = true) (hno : s.noDeclaredKey = true)
    (hb : build W path linked kf s n0 = .ok (c0, n1)) :
    ∀ x ∈ nodeKeys d inh s (loadTree W fuel s path c0 t dv n1).cfg, x = kf.getD inh := by
  intro x hx
  obtain ⟨h1, h2⟩ := build_load_schemaKeys W d fuel s path linked kf n0 n1 c0 t dv hnd hb
  rw [one_key_per_tree d inh s _ hnd hno h2 x hx]
  simp only [effKey, h1]
  cases kf <;> rfl

/-- **Reload under the configuration's key file**, with the uniformity premise replaced by what build and load guarantee. -/
theorem reload_same_key (WK : String → World) (fuel : Nat) (dflt : String) (s : Schema) (c : Cfg)
    (hno : s.noDeclaredKey = true) (hsk : SchemaKeys fuel s c)
    (t : List (Val × Val)) (c0 : Cfg) (n0 n1 : Nat)
    (hnd : s.keysNodup = true) (hsr : SchemaLoadable (WK (effKey dflt c)) fuel s) (hsh : Shaped fuel s c)
    (hco : CodecOkAll (WK (effKey dflt c)) fuel s c) (hst : StableAll (WK (effKey dflt c)) fuel s c)
    (hvd : ValidDeep (WK (effKey dflt c)) fuel s c)
    (hv : ∃ p, validateCfg (WK (effKey dflt c)) (fuel + 1) s p c = none)
    (ht : toTreeK WK fuel dflt s c = some t) (hb : build (WK (effKey dflt c)) "" false none s n0 = .ok (c0, n1)) :
    (loadTree (WK (effKey dflt c)) fuel s "" c0 t true n1).err = none ∧
    SameValues (WK (effKey dflt c)) fuel s c (loadTree (WK (effKey dflt c)) fuel s "" c0 t true n1).cfg :=
  C03.reload_same_key_partial WK fuel dflt s c (effKey dflt c) (one_key_per_tree fuel dflt s c hnd hno hsk)
    t c0 n0 n1 hnd hsr hsh hco hst hvd hv ht hb

end Cinco.C03b
