import Cinco.Config.Links
/-
  C15 (continuation) — the item index an error names, over whole histories of list operations.
  The path of a rejection inside an item of a configuration list carries the item's index, which the item obtains through its
  back-reference to a list object (`_container`).  Four of the repaired defects (F28, F45, F46, F50) were stale back-references.
  Model `Config/Links.lean`: list objects by identity, the held one, the links; operations as the code performs them.  Proved here:
  along EVERY history of appends, insertions, deletions, derivations (`l.copy()`, `l[:]`, `l + [...]`), assignments of derived
  lists and loads, every item of the held list points at the held list (`run_inv`), hence the index an error names is the index
  the item has (`reported_is_actual`, `index_right_after_any_history`) — with the relinking assignment of the current code; the
  code before F50 (`relink = false`) names a stale index on a four-step history (`stale_index_without_relinking`).
-/
namespace Cinco.C15b
open Cinco.Links

theorem upd_same {α} (f : Nat → α) (k : Nat) (v : α) : upd f k v k = v := if_pos rfl
theorem upd_other {α} (f : Nat → α) (k x : Nat) (v : α) (h : x ≠ k) : upd f k v x = f x := if_neg h

theorem inv_init : Inv init := fun _ hx => nomatch hx
theorem wf_init : WF init := ⟨Nat.zero_lt_one, (fun _ _ hx => nomatch hx), fun _ _ => rfl⟩

theorem mem_take_cons_drop {α} {xs : List α} {p q : Nat} {v x : α} (h : x ∈ xs.take p ++ v :: xs.drop q) : x ∈ v :: xs :=
  List.mem_cons.2 ((List.mem_append.1 h).elim (fun h => .inr (List.mem_of_mem_take h)) fun h =>
    (List.mem_cons.1 h).imp_right List.mem_of_mem_drop)

/-- the shape of every step but `assign`: one list object (an identity below the new `next`) gets new contents, all of them
    identities below the new `next`; `held` and the links may change as they like -/
theorem wf_upd {s : St} (h : WF s) {held k next : Nat} {ys : List Nat} (link : Nat → Option Nat)
    (hh : held < next) (hk : k < next) (hn : s.next ≤ next) (hys : ∀ x ∈ ys, x < next) :
    WF { held, contents := upd s.contents k ys, link, next } := by
  refine ⟨hh, fun l x hm => ?_, fun l hl => ?_⟩
  · simp only [upd] at hm
    split at hm
    · exact hys x hm
    · exact Nat.lt_of_lt_of_le (h.2.1 l x hm) hn
  · show upd s.contents k ys l = []
    rw [upd_other _ _ _ _ (Nat.ne_of_gt (Nat.lt_of_lt_of_le hk hl))]
    exact h.2.2 l (Nat.le_trans hn hl)

/-- identities stay fresh along every step, in both modes -/
theorem step_wf (relink : Bool) (s : St) (op : Op) (h : WF s) : WF (step relink s op) := by
  have ⟨hh, hx, _⟩ := h
  cases op with
  | appendNew =>
    refine wf_upd h _ (Nat.lt_succ_of_lt hh) (Nat.lt_succ_of_lt hh) (Nat.le_succ _) fun x hm => ?_
    rcases List.mem_append.1 hm with hm | hm
    · exact Nat.lt_succ_of_lt (hx _ _ hm)
    · exact List.mem_singleton.1 hm ▸ Nat.lt_succ_self _
  | insertNew i =>
    refine wf_upd h _ (Nat.lt_succ_of_lt hh) (Nat.lt_succ_of_lt hh) (Nat.le_succ _) fun x hm => ?_
    rcases List.mem_cons.1 (mem_take_cons_drop hm) with rfl | hm
    · exact Nat.lt_succ_self _
    · exact Nat.lt_succ_of_lt (hx _ _ hm)
  | delete i => exact wf_upd h _ hh hh (Nat.le_refl _) fun x hm => hx _ _ (List.mem_of_mem_eraseIdx hm)
  | derive l =>
    simp only [step.eq_def]
    split
    · exact wf_upd h _ (Nat.lt_succ_of_lt hh) (Nat.lt_succ_self _) (Nat.le_succ _) fun x hm => Nat.lt_succ_of_lt (hx _ _ hm)
    · exact h
  | derivePlus l =>
    simp only [step.eq_def]
    split
    · refine wf_upd h _ (Nat.lt_add_right 2 hh) (Nat.lt_add_of_pos_right Nat.two_pos) (Nat.le_add_right _ 2) fun x hm => ?_
      rcases List.mem_append.1 hm with hm | hm
      · exact Nat.lt_add_right 2 (hx _ _ hm)
      · exact List.mem_singleton.1 hm ▸ Nat.lt_succ_self _
    · exact h
  | assign l =>
    simp only [step.eq_def]
    by_cases hl : l < s.next
    · rw [if_pos hl]; exact ⟨hl, hx, h.2.2⟩
    · rw [if_neg hl]; exact h
  | load k =>
    have hk : s.next < s.next + k + 1 := Nat.lt_succ_of_le (Nat.le_add_right _ k)
    refine wf_upd h _ hk hk (Nat.le_of_lt hk) fun x hm => ?_
    obtain ⟨a, ha, rfl⟩ := List.mem_map.1 hm
    have := List.mem_range.1 ha
    omega

/-- a new item is linked to the held list it goes into; the items already held are older identities and keep their links -/
theorem link_new {s : St} (hw : WF s) (hi : Inv s) {x : Nat} (hm : x = s.next ∨ x ∈ s.contents s.held) :
    upd s.link s.next (some s.held) x = some s.held := by
  rcases hm with rfl | hm
  · exact upd_same ..
  · rw [upd_other _ _ _ _ fun e => Nat.lt_irrefl _ (e ▸ hw.2.1 _ _ hm)]
    exact hi x hm

/-- **one step keeps every item of the held list pointing at the held list** (the current code: assignment relinks) -/
theorem step_inv (s : St) (op : Op) (hw : WF s) (hi : Inv s) : Inv (step true s op) := by
  have ⟨hh, hx, _⟩ := hw
  cases op with
  | appendNew =>
    intro x hm
    simp only [step.eq_def, upd_same] at hm ⊢
    exact link_new hw hi ((List.mem_append.1 hm).symm.imp_left List.mem_singleton.1)
  | insertNew i =>
    intro x hm
    simp only [step.eq_def, upd_same] at hm ⊢
    exact link_new hw hi (List.mem_cons.1 (mem_take_cons_drop hm))
  | delete i =>
    intro x hm
    simp only [step.eq_def, upd_same] at hm ⊢
    exact hi x (List.mem_of_mem_eraseIdx hm)
  | derive l =>
    simp only [step.eq_def]
    split
    · intro x hm
      simp only [upd_other _ _ _ _ (Nat.ne_of_lt hh)] at hm
      exact hi x hm
    · exact hi
  | derivePlus l =>
    -- the new list object is not the held one, and its new item is not among the held items
    simp only [step.eq_def]
    split
    · intro x hm
      simp only [upd_other _ _ _ _ (Nat.ne_of_lt hh)] at hm
      exact (upd_other _ _ _ _ (Nat.ne_of_lt (Nat.lt_succ_of_lt (hx _ _ hm)))).trans (hi x hm)
    · exact hi
  | assign l =>
    simp only [step.eq_def]
    by_cases hl : l < s.next
    · rw [if_pos hl]; exact fun x hm => if_pos hm
    · rw [if_neg hl]; exact hi
  | load k =>
    intro x hm
    simp only [step.eq_def, upd_same] at hm ⊢
    obtain ⟨a, ha, rfl⟩ := List.mem_map.1 hm
    have := List.mem_range.1 ha
    exact if_pos (by omega)

/-- **every reachable state**: along any history of list operations, from any state with fresh identities whose held items point
    at the held list (`index_right_after_any_history` starts at the fresh configuration) -/
theorem run_inv (ops : List Op) : ∀ (s : St), WF s → Inv s → WF (run true s ops) ∧ Inv (run true s ops) :=
  fun _ hw hi => List.foldlRecOn (motive := fun s => WF s ∧ Inv s) ops _ ⟨hw, hi⟩
    fun s h op _ => ⟨step_wf true s op h.1, step_inv s op h.1 h.2⟩

/-- when every item of the held list points at it, the index an error names is the index the item has -/
theorem reported_is_actual (s : St) (hi : Inv s) (x : Nat) (hx : x ∈ s.contents s.held) : reported s x = some (actual s x) := by
  simp only [reported, actual, hi x hx, Option.map_some]

/-- **after any history the index named is the index held** -/
theorem index_right_after_any_history (ops : List Op) (x : Nat) (hx : x ∈ (run true init ops).contents (run true init ops).held) :
    reported (run true init ops) x = some (actual (run true init ops) x) :=
  reported_is_actual _ (run_inv ops init wf_init inv_init).2 x hx

/-- the code before F50 (an accepted own proxy is stored as it is): load three items, `items = items + [{...}]`, delete the first —
    the item now at index 0 still names index 1 -/
theorem stale_index_without_relinking :
    let s := run false init [.load 3, .derivePlus 1, .assign 5, .delete 0]
    s.contents s.held = [3, 4, 6] ∧ reported s 3 = some 1 ∧ actual s 3 = 0 := by decide +kernel

/-- the same history with the relinking assignment of the current code -/
example : let s := run true init [.load 3, .derivePlus 1, .assign 5, .delete 0]
    s.contents s.held = [3, 4, 6] ∧ reported s 3 = some 0 ∧ reported s 6 = some 2 := by decide +kernel

/-! ### F63 — the position named for an item that is REJECTED

  The theorems above are about items the list holds.  An item that is being validated is linked to the list before it is stored
  (`cfg._container = self` in `ListProxy._validate`), and `_get_item_position` answers `len(list)` for a configuration the list does
  not hold.  That is the position the item would get by `append`, `extend`, `+=` and in a load — and no position at all for a
  replacement or an insertion in front of the end (recorded finding F63). -/

/-- what an error raised inside an item that is not (yet) in the held list names as its index -/
def reportedForNew (s : St) : Nat := (s.contents s.held).length

/-- an appended item is reported under the position it gets -/
theorem appended_position_right (s : St) (hw : WF s) :
    (step true s .appendNew).contents (step true s .appendNew).held = s.contents s.held ++ [s.next] ∧
    ((s.contents s.held ++ [s.next]).idxOf s.next = reportedForNew s) := by
  refine ⟨upd_same .., ?_⟩
  have hnot : s.next ∉ s.contents s.held := fun h => Nat.lt_irrefl _ (hw.2.1 _ _ h)
  simp [reportedForNew, List.idxOf_append, hnot]

/-- **F63 in the model**: a rejected replacement of (or insertion before) an existing position `i` is reported under a position
    that does not exist — never under `i` -/
theorem rejected_replacement_names_no_position (s : St) (i : Nat) (hi : i < (s.contents s.held).length) :
    reportedForNew s ≠ i ∧ ¬ reportedForNew s < (s.contents s.held).length := by
  unfold reportedForNew
  omega

/-- three items held, the first one replaced by a map that is rejected: the error names position 3 -/
example : let s := run true init [.load 3]
    reportedForNew s = 3 ∧ (s.contents s.held).length = 3 := by decide +kernel

end Cinco.C15b
