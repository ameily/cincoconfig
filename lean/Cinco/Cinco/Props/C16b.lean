import Cinco.Config.Paths
import Cinco.Generated.Parser
import Cinco.Generated.SupportShape
/-
  C16 (continuation) — the generated parser hands the command line's text to the field and adds nothing of its own.
  The model's parser (`genParser` / `parseArgs`, Config/Paths.lean) has exactly three kinds of option: one that stores the text it is
  given, a switch that stores `True`, a switch that stores `False`; absent options are `None`.  That is what argparse does for an
  `add_argument` call which passes nothing but `action`, `dest`, `help`, `metavar` and `default=None`: any further keyword — `type=`,
  `choices=`, `nargs=`, `const=`, `required=`, a default other than `None` — would make argparse convert, refuse or supply values
  before the field's own validation sees them ("each through normal validation" would then be false: a spelling the field
  normalises into a declared choice would be refused by the parser).  `parser_adds_nothing` is that reading of /repo's
  `generate_argparse_parser`, regenerated on every run.
-/
namespace Cinco.C16b
open Cinco Cinco.Config

/-- the keywords under which argparse stores the text / the switch constant as it is -/
def neutralKeywords : List String := ["action", "dest", "help", "metavar", "default"]

/-- one `add_argument` call of the generated table `parserCalls` — (action, names of the keywords it passes, whether its `default=` is
    absent or the literal `None`) — leaves the command line's text to the field: a storing action, neutral keywords only, no other default -/
def neutralCall (c : String × List String × Bool) : Bool :=
  (c.1 == "store" || c.1 == "store_true" || c.1 == "store_false") && c.2.1.all neutralKeywords.contains && c.2.2 &&
  (c.1 == "store" || c.2.1.contains "default")          -- a switch must say `default=None`, or argparse supplies False / True itself (F14)

/-- **/repo's parser passes nothing to argparse that converts, restricts or supplies values** (generated table) -/
theorem parser_adds_nothing : Generated.parserCalls.all neutralCall = true ∧
    (Generated.parserCalls.map (·.1)) = ["store", "store_true", "store_false"] := by decide +kernel

/-- a supplied value option is handed over as the text the user wrote: the namespace holds exactly that value for its destination -/
theorem supplied_text_reaches_namespace (opts : List OptSpec) (d : String) (v : Val) (hd : d ∈ opts.map (·.dest)) :
    (d, some v) ∈ parseArgs opts [(d, some v)] := by
  simp only [parseArgs, List.reverse_cons, List.reverse_nil, List.nil_append, List.mem_map]
  refine ⟨d, List.mem_eraseDups.2 hd, ?_⟩
  simp

/-- an option the user did not supply is `None` in the namespace, whatever the parser's options are -/
theorem unsupplied_is_none (opts : List OptSpec) (given : List (String × Option Val)) (d : String) (h : ∀ g ∈ given, g.1 ≠ d) :
    ∀ e ∈ parseArgs opts given, e.1 = d → e.2 = none := by
  intro e he hed
  simp only [parseArgs, List.mem_map] at he
  obtain ⟨d', _, rfl⟩ := he
  subst hed
  have : given.reverse.find? (fun g => g.1 == d') = none := by
    rw [List.find?_eq_none]
    intro g hg
    have := h g (List.mem_reverse.1 hg)
    simpa using this
  simp [this]

/-- **/repo's `cmdline_args_override` and `get_all_fields` are what `cmdlineOverride` / `allPaths` of Config/Paths.lean follow**
    (generated reading of cincoconfig/support.py, regenerated on every run): every namespace entry that is not ignored and not `None`
    goes through the configuration's own `__setitem__` with the value as it is, in namespace order, nothing else is touched; the
    enumeration lists each field under prefix + key in schema order and expands a nested schema right after its own entry -/
theorem override_code_order :
    Generated.supportShape.lookup "cmdline_args_override" =
      some ["if[isinstance(ignore, str)]", "ignore = [ignore]", "else", "ignore = ignore or []", "end", "loop[vars(args).items()]",
            "if[key not in ignore and value is not None]", "config.__setitem__(key, value)", "end", "end"] ∧
    Generated.supportShape.lookup "get_all_fields" =
      some ["if[isinstance(schema, Config)]", "schema = schema._schema", "end", "ret = []",
            "prefix = schema._key + '.' if schema._key else ''", "loop[schema._fields.items()]",
            "ret.append((prefix + key, schema, field))", "if[isinstance(field, Schema)]",
            "ret.extend([(prefix + subkey, schema, subfield) for subkey, schema, subfield in get_all_fields(field)])", "end", "end",
            "return ret"] := ⟨rfl, rfl⟩

end Cinco.C16b
