import Cinco.Proofs.ToTree
/-
  C10 — a sensitive-value mask hides every sensitive value at every depth of the tree.
  `toTree` is the code-order model of `Config.to_tree(virtual, sensitive_mask)`; the same mask and virtual flag reach
  configurations held in lists (finding F8).
-/
namespace Cinco.C10
open Cinco Cinco.Field Cinco.Config

theorem toTreeFields_cons (W : World) (fuel : Nat) (c : Cfg) (virt : Bool) (mask : Option Str) (k : String) (f : SField) (rest : List (String × SField)) :
    toTreeFields W fuel c virt mask ((k, f) :: rest) =
      (match renderField W fuel c virt mask k f, toTreeFields W fuel c virt mask rest with
       | some (some v), some t => some ((Val.str k.toList, v) :: t)
       | some none, some t => some t
       | _, _ => none) := by
  rw [toTreeFields]
  rfl

/-- **A sensitive field is rendered as the mask**: a one-character mask repeated to the length of the value's text, any other
    mask verbatim, an empty / falsy value as null — and its `to_basic` (e.g. the encryption of a secret) is not even computed. -/
theorem sensitive_masked (W : World) (fuel : Nat) (c : Cfg) (virt : Bool) (mask : Str) (k : String) (fs : FieldSpec) (m : LeafMeta) (v : Val)
    (hs : m.sensitive = true) (hget : c.get k = some (.val v)) :
    renderField W fuel c virt (some mask) k (.leaf fs m) = some (some (maskValue mask v)) := by
  simp [renderField, hget, hs]

theorem maskValue_cases (mask : Str) (v : Val) :
    maskValue mask v = (if !v.truthy then .none else if mask.length == 1 then .str (List.replicate (strLen v) (mask.headD ' ')) else .str mask) := rfl

/-- **Non-sensitive fields are rendered exactly as without a mask.** -/
theorem nonsensitive_unchanged (W : World) (fuel : Nat) (c : Cfg) (virt : Bool) (mask : Option Str) (k : String) (fs : FieldSpec) (m : LeafMeta)
    (hs : m.sensitive = false) :
    renderField W fuel c virt mask k (.leaf fs m) = renderField W fuel c virt none k (.leaf fs m) := by
  simp [renderField, hs]

/-- **Without a mask nothing is altered**: every leaf is its field's `to_basic`. -/
theorem no_mask_is_to_basic (W : World) (fuel : Nat) (c : Cfg) (virt : Bool) (k : String) (fs : FieldSpec) (m : LeafMeta) (v : Val)
    (hget : c.get k = some (.val v)) :
    renderField W fuel c virt none k (.leaf fs m) = (match toBasic W.fe fs v with | .ok b => some (some b) | .error _ => none) := by
  simp only [renderField, hget, Option.isSome_none, Bool.and_false, Bool.false_eq_true, if_false]
  rfl

/-- **The same mask reaches every depth**: nested sub-configurations and config types are rendered by `to_tree` with the
    same mask and virtual flag. -/
theorem mask_reaches_subconfigs (W : World) (fuel : Nat) (c : Cfg) (virt : Bool) (mask : Option Str) (k : String) (s' : Schema) (kf : Option String) (sub : Cfg)
    (hget : c.get k = some (.node sub)) :
    renderField W fuel c virt mask k (.sub s') = (toTree W fuel s' sub virt mask).map (fun t => some (.dict t)) ∧
    renderField W fuel c virt mask k (.ctype s' kf) = (toTree W fuel s' sub virt mask).map (fun t => some (.dict t)) := by
  simp [renderField, hget]

/-- **The same mask reaches every configuration held in a list**: the items are rendered by `to_tree` with the same mask and
    virtual flag (finding F8). -/
theorem mask_reaches_list_items (W : World) (fuel : Nat) (c : Cfg) (virt : Bool) (mask : Option Str) (k : String) (s' : Schema) (it req : Bool) (m : LeafMeta)
    (cs : List Cfg) (hget : c.get k = some (.nodes cs)) :
    renderField W fuel c virt mask k (.cfgList s' it req m) = (toTreeItems W fuel s' virt mask cs).map (fun ts => some (.list ts)) := by
  simp [renderField, hget]

/-- a rendered list of configurations has one entry per configuration, each the `to_tree` of its item under the same mask
    and virtual flag -/
theorem toTreeItems_each (W : World) (fuel : Nat) (s' : Schema) (virt : Bool) (mask : Option Str) :
    ∀ (cs : List Cfg) (ts : List Val), toTreeItems W fuel s' virt mask cs = some ts →
      ts.length = cs.length ∧ ∀ i (hi : i < cs.length) (hj : i < ts.length), ∃ t, toTree W fuel s' cs[i] virt mask = some t ∧ ts[i] = .dict t := by
  intro cs
  induction cs with
  | nil =>
    intro ts h
    rw [toTreeItems] at h
    cases h
    exact ⟨rfl, fun i hi => absurd hi (Nat.not_lt_zero i)⟩
  | cons c rest ih =>
    intro ts h
    obtain ⟨t, tr, hc, hr, rfl⟩ := toTreeItems_cons_eq_some.1 h
    obtain ⟨hl, ih⟩ := ih tr hr
    refine ⟨congrArg (· + 1) hl, fun i hi hj => ?_⟩
    cases i with
    | zero => exact ⟨t, hc, rfl⟩
    | succ j => exact ih j (Nat.lt_of_succ_lt_succ hi) (Nat.lt_of_succ_lt_succ hj)

/-- Non-vacuity: a one-character mask over a five-character secret, a longer mask, an empty value. -/
example : maskValue ['*'] (.str "hello".toList) = .str "*****".toList ∧ maskValue "<hidden>".toList (.str "hello".toList) = .str "<hidden>".toList ∧
    maskValue ['*'] (.str []) = .none ∧ maskValue [] (.str "x".toList) = .str [] := by decide +kernel

/-- **a one-character mask is repeated to the value's length, whatever the length** (there is no cap, e.g. at 64 characters), and
    every other mask is written verbatim -/
theorem one_char_mask_length (ch : Char) (s : Str) (hs : s ≠ []) :
    maskValue [ch] (.str s) = .str (List.replicate s.length ch) ∧ (List.replicate s.length ch).length = s.length := by
  refine ⟨?_, by simp⟩
  cases s with
  | nil => exact absurd rfl hs
  | cons a t => simp [maskValue, Val.truthy, strLen]

theorem other_mask_verbatim (mask : Str) (s : Str) (hs : s ≠ []) (hm : mask.length ≠ 1) : maskValue mask (.str s) = .str mask := by
  cases s with
  | nil => exact absurd rfl hs
  | cons a t => simp [maskValue, Val.truthy, hm]

end Cinco.C10
