import Cinco.Crypto.KeyFile
/-
  C07 — key files: used verbatim, created once, rejected if malformed, never retained.
-/
namespace Cinco.C07
open Cinco.Crypto Cinco.KeyFile

/-- the per-object invariant: key material is present exactly while a context is open, and it is always 32 bytes -/
def Inv (o : Obj) : Prop :=
  (o.refcount = 0 → o.key = none) ∧ (0 < o.refcount → ∃ k, o.key = some k ∧ k.length = 32)

/-- `os.urandom(32)` returns 32 bytes -/
def TapeOk (w : World) : Prop := ∀ r ∈ w.tape, r.length = 32

/-- properly nested use: a context is only closed if it is open -/
def Allowed (s : State) : Op → Prop
  | .exit i => ∃ o, s.objs[i]? = some o ∧ 0 < o.refcount
  | _ => True

def AllowedRun : State → List Op → Prop
  | _, [] => True
  | s, op :: ops => Allowed s op ∧ AllowedRun (step s op).1 ops

/-! Under the invariant an object has one of two shapes: closed, and then it is the fresh object, or open on a 32-byte key. -/

theorem inv_fresh : Inv Obj.fresh := ⟨fun _ => rfl, fun h => absurd h (Nat.lt_irrefl 0)⟩

theorem inv_open {k : Bytes} (hk : k.length = 32) (n : Nat) : Inv ⟨some k, n + 1⟩ :=
  ⟨fun h => absurd h (Nat.succ_ne_zero n), fun _ => ⟨k, rfl, hk⟩⟩

theorem Inv.closed {o : Obj} (hi : Inv o) (hc : o.refcount = 0) : o = Obj.fresh := by
  obtain ⟨key, n⟩ := o
  cases hc
  cases hi.1 rfl
  rfl

theorem Inv.open {o : Obj} (hi : Inv o) (ho : 0 < o.refcount) : ∃ k n, k.length = 32 ∧ o = ⟨some k, n + 1⟩ := by
  obtain ⟨key, _ | n⟩ := o
  · exact absurd ho (Nat.lt_irrefl 0)
  · obtain ⟨k, hk, hl⟩ := hi.2 ho
    cases hk
    exact ⟨k, n, hl, rfl⟩

theorem isEmpty_of_length_32 {k : Bytes} (hk : k.length = 32) : k.isEmpty = false := by
  cases k with
  | nil => simp at hk
  | cons _ _ => rfl

theorem enter_fresh (w : World) :
    enter Obj.fresh w =
      match loadKey w with
      | (k, w', none) => (⟨k, 1⟩, w', none)
      | (k, w', some e) => (⟨k, 0⟩, w', some e) := rfl

/-- **Used verbatim, never modified**: a closed object entering on a 32-byte file takes exactly those bytes; the world is unchanged. -/
theorem kf_verbatim (o : Obj) (w : World) (k : Bytes) (hi : Inv o) (hc : o.refcount = 0)
    (hf : w.file = .data k) (hk : k.length = 32) :
    enter o w = ({ key := some k, refcount := 1 }, w, none) := by
  rw [hi.closed hc, enter_fresh]
  simp [loadKey, hf, hk]

/-- **Created once**: a missing file is created with the next 32 tape bytes, which are the session key;
    afterwards the file holds them, so every later session (any object) reads them back verbatim (`kf_verbatim`). -/
theorem kf_created (o : Obj) (w : World) (r : Bytes) (rest : List Bytes) (hi : Inv o) (hc : o.refcount = 0)
    (hf : w.file = .absent) (ht : w.tape = r :: rest) :
    enter o w = ({ key := some r, refcount := 1 }, { file := .data r, tape := rest }, none) := by
  rw [hi.closed hc, enter_fresh]
  simp [loadKey, hf, ht]

/-- **Never retained**: a closed object holds no key material and refuses to encrypt or decrypt. -/
theorem kf_closed (o : Obj) (hi : Inv o) (hc : o.refcount = 0) : o.key = none ∧ useKey o = .error .notOpen := by
  rw [hi.closed hc]
  exact ⟨rfl, rfl⟩

/-- **Rejected if malformed, on every attempt**: a file of any other size makes entering fail with an encryption error
    and leaves the object exactly as closed as before (so the next attempt meets the same situation), the file untouched. -/
theorem kf_bad_rejected (o : Obj) (w : World) (b : Bytes) (hi : Inv o) (hc : o.refcount = 0)
    (hf : w.file = .data b) (hb : b.length ≠ 32) :
    enter o w = (o, w, some .encryption) ∧ useKey o = .error .notOpen := by
  refine ⟨?_, (kf_closed o hi hc).2⟩
  rw [hi.closed hc, enter_fresh]
  simp [loadKey, hf, hb, Obj.fresh]

/-- **Nested contexts share one key**: entering an open object never touches the file system or the tape,
    whatever happened to the file meanwhile. -/
theorem kf_nested_share (o : Obj) (w : World) (hi : Inv o) (ho : 0 < o.refcount) :
    enter o w = ({ o with refcount := o.refcount + 1 }, w, none) := by
  obtain ⟨k, n, hk, rfl⟩ := hi.open ho
  simp [enter, hasKey, isEmpty_of_length_32 hk]

theorem loadKey_spec (w : World) (ht : TapeOk w) :
    ∃ w', TapeOk w' ∧ ((∃ k, k.length = 32 ∧ loadKey w = (some k, w', none)) ∨ ∃ e, loadKey w = (none, w', some e)) := by
  have htail : ∀ r rest, w.tape = r :: rest → r.length = 32 ∧ ∀ f, TapeOk ⟨f, rest⟩ := fun r rest h => by
    rw [TapeOk, h, List.forall_mem_cons] at ht
    exact ⟨ht.1, fun _ => ht.2⟩
  unfold loadKey
  split
  · split
    next hb => exact ⟨w, ht, .inl ⟨_, hb, rfl⟩⟩
    · exact ⟨w, ht, .inr ⟨_, rfl⟩⟩
  · split
    next r rest h => exact ⟨_, (htail r rest h).2 _, .inl ⟨r, (htail r rest h).1, rfl⟩⟩
    · exact ⟨w, ht, .inr ⟨_, rfl⟩⟩
  · split
    next r rest h => exact ⟨_, (htail r rest h).2 _, .inr ⟨_, rfl⟩⟩
    · exact ⟨w, ht, .inr ⟨_, rfl⟩⟩

theorem enter_inv (o : Obj) (w : World) (hi : Inv o) (ht : TapeOk w) :
    Inv (enter o w).1 ∧ TapeOk (enter o w).2.1 := by
  rcases Nat.eq_zero_or_pos o.refcount with hc | ho
  · rw [hi.closed hc, enter_fresh]
    obtain ⟨w', hw', ⟨k, hk, h⟩ | ⟨e, h⟩⟩ := loadKey_spec w ht <;> rw [h]
    · exact ⟨inv_open hk 0, hw'⟩
    · exact ⟨inv_fresh, hw'⟩
  · rw [kf_nested_share o w hi ho]
    obtain ⟨k, n, hk, rfl⟩ := hi.open ho
    exact ⟨inv_open hk _, ht⟩

theorem exit_inv (o : Obj) (hi : Inv o) (ho : 0 < o.refcount) : Inv (exit o).1 := by
  obtain ⟨k, n, hk, rfl⟩ := hi.open ho
  cases n with
  | zero => exact inv_fresh
  | succ n => exact inv_open hk n

theorem useKey_inv {o : Obj} {k : Bytes} (hi : Inv o) (h : useKey o = .ok k) : k.length = 32 := by
  rcases Nat.eq_zero_or_pos o.refcount with hc | ho
  · rw [(kf_closed o hi hc).2] at h
    cases h
  · obtain ⟨k', n, hk, rfl⟩ := hi.open ho
    simp [useKey, isEmpty_of_length_32 hk] at h
    exact h ▸ hk

/-- the invariant of the whole machine: every object for the path satisfies `Inv`, and the random tape delivers 32-byte entries -/
def StateInv (s : State) : Prop := (∀ o ∈ s.objs, Inv o) ∧ TapeOk s.world

theorem step_enter {s : State} {i : Nat} {o : Obj} (hg : s.objs[i]? = some o) :
    step s (.enter i) = (⟨s.objs.set i (enter o s.world).1, (enter o s.world).2.1⟩,
      match (enter o s.world).2.2 with | none => .ok | some e => .err e) := by
  simp only [step, hg]
  rfl

theorem step_use {s : State} {i : Nat} {o : Obj} (hg : s.objs[i]? = some o) :
    step s (.use i) = (s, match useKey o with | .ok k => .key k | .error e => .err e) := by
  simp only [step, hg]
  rfl

/-- **One step preserves the invariant** (every operation kind, including external changes of the file). -/
theorem step_inv (s : State) (op : Op) (hs : StateInv s) (ha : Allowed s op) : StateInv (step s op).1 := by
  obtain ⟨ho, ht⟩ := hs
  have hset : ∀ i o', Inv o' → ∀ x ∈ s.objs.set i o', Inv x := fun i o' h' x hx =>
    (List.mem_or_eq_of_mem_set hx).elim (ho x) (· ▸ h')
  cases op with
  | enter i =>
    cases hg : s.objs[i]? with
    | none => simp only [step, hg]; exact ⟨ho, ht⟩
    | some o =>
      have := enter_inv o s.world (ho o (List.mem_of_getElem? hg)) ht
      rw [step_enter hg]
      exact ⟨hset i _ this.1, this.2⟩
  | exit i =>
    obtain ⟨o, hg, hpos⟩ := ha
    simp only [step, hg]
    exact ⟨hset i _ (exit_inv o (ho o (List.mem_of_getElem? hg)) hpos), ht⟩
  | use i =>
    simp only [step]
    cases s.objs[i]? <;> exact ⟨ho, ht⟩
  | newObj =>
    refine ⟨fun x hx => ?_, ht⟩
    rcases List.mem_append.1 hx with h | h
    · exact ho x h
    · rw [List.mem_singleton.1 h]; exact inv_fresh
  | _ => exact ⟨ho, ht⟩

/-- **Every reachable state satisfies the invariant**, along any properly nested history with external file changes. -/
theorem run_inv : ∀ (ops : List Op) (s : State), StateInv s → AllowedRun s ops → StateInv (run s ops).1 := by
  intro ops
  induction ops with
  | nil => exact fun _ hs _ => hs
  | cons op ops ih =>
    intro s hs ha
    exact ih (step s op).1 (step_inv s op hs ha.1) ha.2

theorem step_key {s : State} {op : Op} {k : Bytes} (h : (step s op).2 = .key k) :
    ∃ (i : Nat) (o : Obj), s.objs[i]? = some o ∧ useKey o = .ok k := by
  cases op with
  | use i =>
    simp only [step] at h
    split at h
    · cases h
    next o hg =>
      split at h <;> cases h
      exact ⟨i, o, hg, ‹_›⟩
  | enter i | exit i =>
    simp only [step] at h
    split at h
    · cases h
    · split at h <;> cases h
  | _ => cases h

/-- **No encryption or decryption ever runs with anything but a 32-byte key**: every key observed through
    `encrypt`/`decrypt` along any such history has length 32 (so the content of a malformed file is never used). -/
theorem run_keys_32 : ∀ (ops : List Op) (s : State), StateInv s → AllowedRun s ops →
    ∀ k, Out.key k ∈ (run s ops).2 → k.length = 32 := by
  intro ops
  induction ops with
  | nil => simp [run]
  | cons op ops ih =>
    intro s hs ha k hk
    simp only [run, List.mem_cons] at hk
    rcases hk with hk | hk
    · obtain ⟨i, o, hg, hu⟩ := step_key hk.symm
      exact useKey_inv (hs.1 o (List.mem_of_getElem? hg)) hu
    · exact ih (step s op).1 (step_inv s op hs ha.1) ha.2 k hk

/-- Non-vacuity: two fresh objects over an absent file and a two-entry tape satisfy the invariant.  The second example evaluates
    the outputs of a history with a nested context, an external corruption and a rejected re-open (over a one-entry tape). -/
example : StateInv ⟨[Obj.fresh, Obj.fresh], ⟨.absent, [List.replicate 32 1, List.replicate 32 2]⟩⟩ :=
  ⟨by simp [inv_fresh], by simp [TapeOk]⟩
example : (run ⟨[Obj.fresh, Obj.fresh], ⟨.absent, [List.replicate 32 1]⟩⟩
      [.enter 0, .enter 0, .use 0, .exit 0, .exit 0, .use 0, .extWrite [1, 2, 3], .enter 1, .use 1]).2 =
    [.ok, .ok, .key (List.replicate 32 1), .ok, .ok, .err .notOpen, .ok, .err .encryption, .err .notOpen] := rfl

end Cinco.C07
