import Cinco.Proofs.FieldLemmas
import Cinco.Field.Chain
import Cinco.Generated.Registration
import Cinco.Generated.LoadValidateShape
/-
  C11 (continuation) — *every* validator registered on a field was run and passed.
  The field-level statement of C11 (`validate_ok_means`, `load_ok_validated`) speaks of "the field's validator"; with several
  registrations that validator is their composition in registration order.
-/
namespace Cinco.C11b
open Cinco Cinco.Field

variable (custom : String → Val → Except Err Val)

theorem chain_nil (v : Val) : chain custom [] v = .ok v := rfl

theorem chain_cons (n : String) (ns : List String) (v : Val) :
    chain custom (n :: ns) v = (custom n v).bind (chain custom ns) := by
  rw [chain]; cases custom n v <;> rfl

theorem chain_singleton (n : String) (v : Val) : chain custom [n] v = custom n v := by
  rw [chain_cons]; cases custom n v <;> rfl

/-- registering `ms` after `ns` runs `ns` first and hands its result to `ms` -/
theorem chain_append (ns ms : List String) (v : Val) :
    chain custom (ns ++ ms) v = (chain custom ns v).bind (chain custom ms) := by
  induction ns generalizing v with
  | nil => rfl
  | cons n ns ih =>
    rw [List.cons_append, chain_cons, chain_cons]
    cases custom n v with
    | error e => rfl
    | ok v' => exact ih v'

/-- **a composition that returns = every registered validator was run, in order, on its predecessor's result, and passed** -/
theorem chain_ok_iff_ran (ns : List String) (v v' : Val) : chain custom ns v = .ok v' ↔ Ran custom ns v v' := by
  induction ns generalizing v with
  | nil => exact ⟨fun h => by cases h; exact .nil _, fun h => by cases h; rfl⟩
  | cons n ns ih =>
    rw [chain_cons]
    refine ⟨fun h => ?_, fun h => ?_⟩
    · obtain ⟨u, hc, h⟩ := bind_ok h
      exact .cons hc ((ih u).1 h)
    · cases h with
      | cons hc hr => rw [hc]; exact (ih _).2 hr

/-- in a run that returned, each registered validator accepted the value it was given -/
theorem ran_each_passed {ns : List String} {v v' : Val} (h : Ran custom ns v v') : ∀ n ∈ ns, ∃ u u', custom n u = .ok u' := by
  induction h with
  | nil v => intro n hn; cases hn
  | cons hc _ ih =>
    intro m hm
    cases hm with
    | head => exact ⟨_, _, hc⟩
    | tail _ hm' => exact ih m hm'

/-- no validator is skipped: a load that returns ran as many validators as were registered (corollary for the caller) -/
theorem chain_ok_each_passed (ns : List String) (v v' : Val) (h : chain custom ns v = .ok v') : ∀ n ∈ ns, ∃ u u', custom n u = .ok u' :=
  ran_each_passed custom ((chain_ok_iff_ran custom ns v v').1 h)

/-- the composition rejects exactly when some validator rejects the value handed to it by those registered before it -/
theorem chain_error_iff (ns : List String) (v : Val) (e : Err) :
    chain custom ns v = .error e ↔ ∃ pre n post u, ns = pre ++ n :: post ∧ chain custom pre v = .ok u ∧ custom n u = .error e := by
  constructor
  · induction ns generalizing v with
    | nil => intro h; cases h
    | cons m ms ih =>
      rw [chain_cons]
      intro h
      cases hc : custom m v with
      | error e' => rw [hc] at h; cases h; exact ⟨[], m, ms, v, rfl, rfl, hc⟩
      | ok w =>
        rw [hc] at h
        obtain ⟨pre, n, post, u, rfl, hpre, hn⟩ := ih w h
        exact ⟨m :: pre, n, post, u, rfl, by rw [chain_cons, hc]; exact hpre, hn⟩
  · rintro ⟨pre, n, post, u, rfl, hpre, hn⟩
    rw [chain_append, hpre]
    show chain custom (n :: post) u = .error e
    rw [chain_cons, hn]
    rfl

/-- a small catalogue for the witnesses below -/
def demo (n : String) (v : Val) : Except Err Val :=
  if n == "reject" then .error .value else .ok v

/-- the reading of the code before F41 (`field.validator = func`): the later registration replaces the earlier one, and a value the
    first validator rejects passes — "every validator registered was run and passed" is false of that reading -/
theorem replace_skips_a_validator :
    chain demo (registered .replace ["reject", "pass"]) (.int 1) = .ok (.int 1) ∧ demo "reject" (.int 1) = .error .value ∧
    chain demo (registered .chain ["reject", "pass"]) (.int 1) = .error .value := ⟨rfl, rfl, rfl⟩

/-- non-vacuity: a registration of two validators that both pass runs both -/
example : Ran demo ["pass", "again"] (.int 1) (.int 1) := (chain_ok_iff_ran demo _ _ _).1 rfl

/-- /repo's `support.validator` composes a new registration with the validator already on the field (read off the source on every run) -/
theorem source_chains_registrations : Generated.validatorRegistration = "chain" := rfl

/-- **the code order the model of the load / validation path follows is the code order of /repo** (control skeletons of
    `Config.load_tree`, `Config.validate`, `Schema._validate`, `Schema._validate_field`, `Field.validate`, regenerated from
    `cincoconfig/core.py` on every run): a tree entry of a field bound to a non-empty variable is skipped, every other entry is decoded
    (errors wrapped) and stored, then the whole configuration is validated; the walk returns at once when the feature flag is off,
    skips virtual / method fields, validates every other field (include fields too: F61) and nested configuration, then runs every schema validator,
    converting ANY exception into the library's error and — in collecting mode — into a list entry; a field's validation stops at
    `None` (raising when required) and otherwise runs `_validate` and then the registered validator -/
theorem load_validate_code_order : Generated.loadValidateShape =
    [("Config.load_tree", ["loop[tree.items()]", "_get_field", "if[isinstance(field, Field)]", "if[isinstance(field.env, str) and field.env and os.environ.get(field.env)]", "continue", "end", "try", "to_python", "except:ValidationError", "raise", "except:Exception", "raise:ValidationError", "end", "end", "_set_value", "end", "if[validate]", "validate", "end"]),
     ("Config.validate", ["_validate"]),
     ("Schema._validate", ["if[not self._is_feature_enabled(config)]", "return", "end", "let[ignore_types=(VirtualFieldMixin, InstanceMethodFieldMixin)]", "loop[self._fields.values()]", "if[isinstance(field, ignore_types)]", "continue", "end", "try", "_validate_field", "except:ValidationError", "if[not collect_errors]", "raise", "end", "append", "except:Exception", "if[not collect_errors]", "raise:exc", "end", "append", "end", "end", "loop[self._validators]", "try", "validator", "except:ValidationError", "if[not collect_errors]", "raise", "end", "append", "except:Exception", "if[not collect_errors]", "raise:exc", "end", "append", "end", "end"]),
     ("Schema._validate_field", ["__getval__", "if[isinstance(field, Field)]", "validate", "else", "if[isinstance(val, Config)]", "validate", "end", "end"]),
     ("Field.validate", ["if[self.required and value is None]", "raise:ValueError", "end", "if[value is None]", "return", "end", "_validate", "if[self.validator]", "validator", "end"]),
     ("Schema._is_feature_enabled", ["return all((field.is_feature_enabled(cfg) for field in self._feature_flag_fields))"]),
     ("FeatureFlagField.is_feature_enabled", ["return self.__getval__(cfg)"])] := by rfl

end Cinco.C11b
