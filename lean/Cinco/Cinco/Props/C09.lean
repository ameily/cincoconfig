import Cinco.Crypto.Digest
import Cinco.Proofs.Base64
/-
  C09 — challenge fields keep only a salted hash that verifies exactly the secret.
  The hash function is a parameter; "a different secret fails" needs collision freedom of the hash on the
  two inputs concerned, which is an explicit hypothesis (a cryptographic assumption, not a theorem).
-/
namespace Cinco.C09
open Cinco Cinco.Digest

/-- **What is stored**: with no salt given, the salt is the next tape entry (fresh randomness of the digest's
    length) and the digest is `H(salt ++ plaintext)`; the tape advances by exactly one entry. -/
theorem digest_create (E : HashEnv) (alg : String) (p r : Bytes) (rest : List Bytes) :
    create E alg p none (r :: rest) = .ok (⟨r, E.H alg (r ++ p), alg⟩, rest) := rfl

/-- A given salt is truncated to the digest size; a short one is refused. -/
theorem digest_create_salt (E : HashEnv) (alg : String) (p s : Bytes) (tape : List Bytes) (hs : s ≠ []) :
    create E alg p (some s) tape =
      if s.length < E.size alg then .error .shortSalt
      else .ok (⟨s.take (E.size alg), E.H alg (s.take (E.size alg) ++ p), alg⟩, tape) := by
  cases s with
  | nil => exact absurd rfl hs
  | cons a t => rfl

/-- **Challenge ⇔ digest equality.** -/
theorem challenge_iff (E : HashEnv) (dv : DigestValue) (q : Bytes) :
    challenge E dv q = true ↔ E.H dv.alg (dv.salt ++ q) = dv.digest := by
  simp [challenge]

theorem challenge_eq_false_iff (E : HashEnv) (dv : DigestValue) (q : Bytes) :
    challenge E dv q = false ↔ E.H dv.alg (dv.salt ++ q) ≠ dv.digest := by
  simp [challenge]

/-- **Challenging with the secret succeeds**, whatever the tape delivered as salt. -/
theorem challenge_self (E : HashEnv) (alg : String) (p : Bytes) (salt : Option Bytes) (tape tape' : List Bytes)
    (dv : DigestValue) (h : create E alg p salt tape = .ok (dv, tape')) : challenge E dv p = true := by
  -- in every branch of `create` that succeeds, the digest is the hash of the stored salt followed by `p`
  simp only [create] at h
  split at h
  · split at h
    · cases h
    · cases h; exact (challenge_iff E _ p).2 rfl
  · split at h <;> cases h <;> exact (challenge_iff E _ p).2 rfl

/-- **The empty secret is a secret like any other** (what a challenge that refuses an empty plaintext up front, or a route
    that skips falsy values, would break): the digest created for `""` is the hash of the salt alone, challenging it with `""` succeeds,
    and a non-empty secret fails unless it collides with the salt alone. -/
theorem empty_secret (E : HashEnv) (alg : String) (r : Bytes) (rest : List Bytes) :
    create E alg [] none (r :: rest) = .ok (⟨r, E.H alg (r ++ []), alg⟩, rest) ∧
    challenge E ⟨r, E.H alg (r ++ []), alg⟩ [] = true ∧
    ∀ q, E.H alg (r ++ q) ≠ E.H alg (r ++ []) → challenge E ⟨r, E.H alg (r ++ []), alg⟩ q = false :=
  ⟨digest_create E alg [] r rest, (challenge_iff E _ _).2 rfl, fun q hq => (challenge_eq_false_iff E _ q).2 hq⟩

/-- the cryptographic assumption: no collision between these two salted inputs -/
def CollisionFree (E : HashEnv) (alg : String) (salt p q : Bytes) : Prop :=
  E.H alg (salt ++ p) = E.H alg (salt ++ q) → p = q

/-- **Challenging with any other secret fails** (under collision freedom for that pair). -/
theorem challenge_other (E : HashEnv) (alg : String) (p q r : Bytes) (rest : List Bytes)
    (hcf : CollisionFree E alg r p q) (hne : q ≠ p) :
    ∀ dv t, create E alg p none (r :: rest) = .ok (dv, t) → challenge E dv q = false := by
  intro dv t h
  cases h
  exact (challenge_eq_false_iff E _ q).2 fun e => hne (hcf e.symm).symm

/-- **Two assignments of the same secret draw different tape entries**: salts are consecutive tape entries. -/
theorem fresh_salts (E : HashEnv) (alg : String) (p r1 r2 : Bytes) (rest : List Bytes) :
    ∃ d1 d2, create E alg p none (r1 :: r2 :: rest) = .ok (d1, r2 :: rest) ∧
             create E alg p none (r2 :: rest) = .ok (d2, rest) ∧ d1.salt = r1 ∧ d2.salt = r2 :=
  ⟨_, _, rfl, rfl, rfl, rfl⟩

/-- **No plaintext on disk**: the stored form is exactly `{salt: base64, digest: base64}` — a function of salt and digest only. -/
theorem stored_shape (dv : DigestValue) :
    toBasic (some dv) = .dict [("salt", .str (B64.encode dv.salt)), ("digest", .str (B64.encode dv.digest))] := rfl

/-- **Salt and digest survive saving and loading unchanged** (so the same challenges keep succeeding and failing). -/
theorem digest_codec (E : HashEnv) (utf8 : Str → Bytes) (dv : DigestValue) (tape : List Bytes) :
    toPython E dv.alg utf8 (toBasic (some dv)) tape = .ok (some dv, tape) := by
  simp [toBasic, toPython, Kvs.lookup, B64.decode_encode]

theorem none_codec (E : HashEnv) (alg : String) (utf8 : Str → Bytes) (tape : List Bytes) :
    toPython E alg utf8 (toBasic none) tape = .ok (none, tape) := rfl

/-- **A plaintext written by hand into a file is hashed on load** (never kept). -/
theorem plaintext_hashed_on_load (E : HashEnv) (alg : String) (utf8 : Str → Bytes) (p : Str) (r : Bytes) (rest : List Bytes) :
    toPython E alg utf8 (.str p) (r :: rest) = .ok (some ⟨r, E.H alg (r ++ utf8 p), alg⟩, rest) := rfl

/-- Assigning an already hashed value keeps it (idempotence of validation on its own results). -/
theorem validate_digest_id (E : HashEnv) (alg : String) (dv : DigestValue) (tape : List Bytes) :
    validate E alg (.digest dv) tape = .ok (dv, tape) := rfl

/-- **Generated obligation**: the six offered algorithms, with the digest sizes `hashlib` reports. -/
theorem algorithms_offered :
    Generated.challengeAlgorithms.map (fun a => (a.1, a.2.2)) =
      [("md5", 16), ("sha1", 20), ("sha224", 28), ("sha256", 32), ("sha384", 48), ("sha512", 64)] ∧
    Generated.challengeAlgorithms.all (fun a => a.1 == a.2.1) = true := by decide

/-- Non-vacuity of `challenge_other`'s hypothesis: the identity "hash" is collision free. -/
example : CollisionFree ⟨fun _ b => b, fun _ => 0⟩ "id" [1] [2] [3] := by
  intro h; simp at h

end Cinco.C09
