import Cinco.Props.C07
import Cinco.Generated.KeyFileShape
/-
  C07 (continuation) — sessions over whole histories.
  C07's theorems are per step (`kf_verbatim`, `kf_created`, `kf_bad_rejected`, `kf_closed`) plus the invariant along every properly
  nested history (`run_inv`).  Joined here: *whatever* happened before — failed opens, contexts left by an exception (the model's
  `exit` is the one `__exit__`, taken on both ways out), other objects for the same path, the file replaced, deleted and re-created
  from outside — an object all of whose contexts have closed holds nothing, and its next session uses the key file as it is *then*:
  verbatim when it holds 32 bytes (`next_session_uses_current_file`), refused when it does not (`next_session_refuses_bad_file`),
  created from the next random bytes when it is missing (`next_session_creates_missing_file`).  A key that was on disk earlier is
  never used again once the file has been replaced (`rotation_respected`): the property "used for that session and all later ones"
  is about the *file*, not about what an object happened to read before.
-/
namespace Cinco.C07b
open Cinco.Crypto Cinco.KeyFile Cinco.C07

theorem obj_inv_after (ops : List Op) (s0 : State) (h0 : StateInv s0) (ha : AllowedRun s0 ops) (i : Nat) (o : Obj)
    (hg : (run s0 ops).1.objs[i]? = some o) : Inv o :=
  (run_inv ops s0 h0 ha).1 o (List.mem_of_getElem? hg)

/-- **after any history, a closed object holds no key material** (also after failed opens and contexts left by exceptions) -/
theorem closed_holds_nothing (ops : List Op) (s0 : State) (h0 : StateInv s0) (ha : AllowedRun s0 ops) (i : Nat) (o : Obj)
    (hg : (run s0 ops).1.objs[i]? = some o) (hc : o.refcount = 0) :
    o.key = none ∧ (step (run s0 ops).1 (.use i)).2 = .err .notOpen := by
  have hk := kf_closed o (obj_inv_after ops s0 h0 ha i o hg) hc
  rw [step_use hg, hk.2]
  exact ⟨hk.1, rfl⟩

/-- **the next session uses the file as it is now, verbatim** — whatever keys the object or the file held earlier in the history -/
theorem next_session_uses_current_file (ops : List Op) (s0 : State) (h0 : StateInv s0) (ha : AllowedRun s0 ops) (i : Nat) (o : Obj)
    (hg : (run s0 ops).1.objs[i]? = some o) (hc : o.refcount = 0) (k : Bytes)
    (hf : (run s0 ops).1.world.file = .data k) (hk : k.length = 32) :
    let s := (run s0 ops).1
    (step s (.enter i)).2 = .ok ∧ (step s (.enter i)).1.world = s.world ∧
    (step (step s (.enter i)).1 (.use i)).2 = .key k := by
  intro s
  rw [step_enter hg, kf_verbatim o s.world k (obj_inv_after ops s0 h0 ha i o hg) hc hf hk,
    step_use (List.getElem?_set_self (List.getElem?_eq_some_iff.1 hg).1)]
  simp [useKey, isEmpty_of_length_32 hk]

/-- **a file of any other size is refused again**, and the object stays closed and empty (so is the attempt after that) -/
theorem next_session_refuses_bad_file (ops : List Op) (s0 : State) (h0 : StateInv s0) (ha : AllowedRun s0 ops) (i : Nat) (o : Obj)
    (hg : (run s0 ops).1.objs[i]? = some o) (hc : o.refcount = 0) (b : Bytes)
    (hf : (run s0 ops).1.world.file = .data b) (hb : b.length ≠ 32) :
    let s := (run s0 ops).1
    (step s (.enter i)).2 = .err .encryption ∧ (step s (.enter i)).1.world = s.world ∧ (step s (.enter i)).1.objs = s.objs := by
  intro s
  obtain ⟨hlt, hget⟩ := List.getElem?_eq_some_iff.1 hg
  rw [step_enter hg, (kf_bad_rejected o s.world b (obj_inv_after ops s0 h0 ha i o hg) hc hf hb).1]
  exact ⟨rfl, rfl, by rw [← hget]; exact List.set_getElem_self hlt⟩

/-- **a missing file is created once** from the next random bytes, which are that session's key and the file's content from then on -/
theorem next_session_creates_missing_file (ops : List Op) (s0 : State) (h0 : StateInv s0) (ha : AllowedRun s0 ops) (i : Nat) (o : Obj)
    (hg : (run s0 ops).1.objs[i]? = some o) (hc : o.refcount = 0) (r : Bytes) (rest : List Bytes)
    (hf : (run s0 ops).1.world.file = .absent) (ht : (run s0 ops).1.world.tape = r :: rest) :
    let s := (run s0 ops).1
    (step s (.enter i)).2 = .ok ∧ (step s (.enter i)).1.world = { file := .data r, tape := rest } ∧ r.length = 32 := by
  intro s
  rw [step_enter hg, kf_created o s.world r rest (obj_inv_after ops s0 h0 ha i o hg) hc hf ht]
  exact ⟨rfl, rfl, (run_inv ops s0 h0 ha).2 r (by rw [ht]; exact List.mem_cons_self)⟩

/-- the initial state of a process: one fresh object, the world as given -/
def start (w : World) : State := { objs := [Obj.fresh], world := w }

theorem start_inv (w : World) (hw : TapeOk w) : StateInv (start w) :=
  ⟨fun o ho => by rw [List.mem_singleton.1 ho]; exact inv_fresh, hw⟩

/-- **rotation respected**: a session under key `k1`, the file replaced by `k2` after the session closed, the same object opened
    again: it uses `k2` (and never `k1` again) -/
theorem rotation_respected (k1 k2 : Bytes) (h1 : k1.length = 32) (h2 : k2.length = 32) (tape : List Bytes) :
    (run (start { file := .data k1, tape := tape }) [.enter 0, .use 0, .exit 0, .extWrite k2, .enter 0, .use 0]).2
      = [.ok, .key k1, .ok, .ok, .ok, .key k2] := by
  simp [run, step, start, enter, exit, hasKey, loadKey, useKey, Obj.fresh, h1, h2, isEmpty_of_length_32]

/-- likewise after a *failed* open in between (a truncated file), then a repaired and later a replaced file -/
theorem rotation_after_failed_open (bad k1 k2 : Bytes) (hb : bad.length ≠ 32) (h1 : k1.length = 32) (h2 : k2.length = 32) (tape : List Bytes) :
    (run (start { file := .data bad, tape := tape })
      [.enter 0, .extWrite k1, .enter 0, .use 0, .exit 0, .extWrite k2, .enter 0, .use 0]).2
      = [.err .encryption, .ok, .ok, .key k1, .ok, .ok, .ok, .key k2] := by
  simp [run, step, start, enter, exit, hasKey, loadKey, useKey, Obj.fresh, hb, h1, h2, isEmpty_of_length_32]

/-- non-vacuity of the hypotheses of the session theorems: a history with a failed open and an exception-style exit reaches a state
    with a closed object and a 32-byte file -/
example : let s := (run (start { file := .data [1], tape := [] }) [.enter 0, .extWrite (List.replicate 32 7), .enter 0, .exit 0]).1
    s.objs[0]? = some ⟨none, 0⟩ ∧ s.world.file = .data (List.replicate 32 7) := by decide

/-- **the code order the model follows is the code order of /repo** (control skeleton of the `KeyFile` methods, regenerated from
    `cincoconfig/encryption.py` on every run): `__enter__` loads only when no key is held and counts the context *after* a successful
    load; `__exit__` counts down unconditionally — whichever way the block was left — and drops the key at zero; `encrypt` / `decrypt`
    refuse before anything else when no key is held; `__load_key` reads the file, creates it only on `OSError`, validates what it
    read and forgets it again when validation fails; `__generate_key` writes exactly the 32 random bytes it returns; the validation
    is "present and 32 bytes long" -/
theorem keyfile_code_order : Generated.keyFileShape =
    [("__enter__", ["if[not key]", "load", "end", "refcount+=1"]),
     ("__exit__", ["refcount-=1", "if[refcount==0]", "key=None", "end"]),
     ("encrypt", ["if[not key]", "raise:TypeError", "end"]),
     ("decrypt", ["if[not key]", "raise:TypeError", "end"]),
     ("__load_key", ["try", "open:rb", "key=read", "close", "except:OSError", "key=generate", "else", "try", "validate",
                     "except:EncryptionError", "key=None", "raise", "end", "end"]),
     ("__generate_key", ["local key=urandom", "open:wb", "write key", "close", "return key"]),
     ("_validate_key", ["if[?not self.__key or len(self.__key) != 32]", "raise:EncryptionError", "end"])] := by rfl

end Cinco.C07b
