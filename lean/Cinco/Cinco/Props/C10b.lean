import Cinco.Proofs.Nested
import Cinco.Generated.ContainerShape
/-
  C10b — the mask (and the virtual flag) reach configurations held below nested containers.

  `field.to_basic` renders a list of lists of configurations (a dict of lists of configurations, …) with a bare
  `item.to_tree()` for every configuration inside: no mask, so sensitive values in clear (finding F38).  After the repair
  `Config.to_tree(virtual, sensitive_mask)` walks the held value alongside the field's rendering (`Config._render_nested`,
  modelled by `Nested.renderNested`) and re-renders every configuration position with the caller's options.

  `R id` is `to_tree(virtual, sensitive_mask)` of configuration `id` (the caller's options), `U id` its bare `to_tree()`;
  `toBasic U h` is what `field.to_basic` returns for the held value `h`.
-/
namespace Cinco.C10b
open Cinco Cinco.Nested

/-- **After the walk every configuration, at every depth, is rendered with the caller's options — and nothing else changes**:
    same list / dict structure, same keys, same leaves; the unmasked renderings `U` are gone altogether. -/
theorem nested_rendered_with_options (R U : Nat → Tree) (h : Held) :
    renderNested R h (toBasic U h) = toBasic R h :=
  render_toBasic R U h

/-- …so the result does not depend on what the bare `to_tree()` calls produced. -/
theorem unmasked_renderings_irrelevant (R U U' : Nat → Tree) (h : Held) :
    renderNested R h (toBasic U h) = renderNested R h (toBasic U' h) := by
  rw [nested_rendered_with_options, nested_rendered_with_options]

/-- **A held value without any configuration inside is rendered exactly as the field rendered it** — whatever `basic` is
    (when the shapes agree the walk rebuilds the very same tree, otherwise it returns `basic` itself). -/
theorem no_config_no_change (R : Nat → Tree) (h : Held) (b : Tree) (hc : cfgIds h = []) :
    renderNested R h b = b :=
  render_noCfg R h b hc

/-- **With the field's own options (no mask, no virtual flag) nothing is altered.** -/
theorem same_options_identity (U : Nat → Tree) (h : Held) :
    renderNested U h (toBasic U h) = toBasic U h :=
  nested_rendered_with_options U U h

/-- The walk asks only for the configurations that are inside the held value. -/
theorem only_inner_configs_matter (R R' : Nat → Tree) (h : Held) (b : Tree) (hr : ∀ id ∈ cfgIds h, R id = R' id) :
    renderNested R h b = renderNested R' h b :=
  render_congr R R' h b hr

/-- Which strings (leaves and keys) the tree after the walk contains: those of the held value itself and those of the caller's
    renderings `R` of the configurations inside — nothing more, nothing less; the bare renderings `U` do not count. -/
theorem mentions_after_walk (R U : Nat → Tree) (s : Str) (h : Held) :
    (renderNested R h (toBasic U h)).mentions s = (ownMentions s h || (cfgIds h).any (fun id => (R id).mentions s)) := by
  rw [nested_rendered_with_options]
  exact anyStr_toBasic _ R h

/-- **The masked tree has no string with a given property** (e.g. "contains the secret as a substring"): if no masked rendering
    `R id` of a configuration inside has one and neither has a leaf or a key of the held value itself, then the tree after the walk
    has none — whatever the unmasked renderings `U` contain. -/
theorem masked_tree_has_no_such_string (p : Str → Bool) (R U : Nat → Tree) (h : Held)
    (hown : ownAnyStr p h = false) (hR : ∀ id ∈ cfgIds h, Tree.anyStr p (R id) = false) :
    Tree.anyStr p (renderNested R h (toBasic U h)) = false := by
  rw [nested_rendered_with_options, anyStr_toBasic, hown, Bool.false_or, List.any_eq_false]
  intro id hm
  simp [hR id hm]

/-- **The masked tree does not mention a secret**: the same for the property "equals `s`". -/
theorem masked_tree_mentions_no_secret (R U : Nat → Tree) (s : Str) (h : Held)
    (hown : ownMentions s h = false) (hR : ∀ id ∈ cfgIds h, (R id).mentions s = false) :
    (renderNested R h (toBasic U h)).mentions s = false :=
  masked_tree_has_no_such_string _ R U h hown hR

/-- **The walk is needed**: on a list of lists of configurations the field's rendering alone mentions the secret, the tree
    after the walk does not, for every masked rendering that does not. -/
theorem to_basic_alone_leaks : ∃ (h : Held) (U : Nat → Tree) (s : Str),
    (toBasic U h).mentions s = true ∧
    ∀ R : Nat → Tree, (∀ id, (R id).mentions s = false) → (renderNested R h (toBasic U h)).mentions s = false := by
  refine ⟨.list [.list [.cfg 1], .list []], fun _ => .dict [("password", .str "hunter2".toList)], "hunter2".toList, by decide +kernel, ?_⟩
  intro R hR
  exact masked_tree_mentions_no_secret R _ _ _ (by decide +kernel) (fun id _ => hR id)

/-- **A held list against anything but a list of the same length: `basic` comes back untouched.** -/
theorem shape_mismatch_unchanged (R : Nat → Tree) (items : List Held) (b : Tree)
    (hb : ∀ bs, b = .list bs → items.length ≠ bs.length) :
    renderNested R (.list items) b = b := by
  cases b with
  | list bs => rw [renderNested, if_neg (hb bs rfl)]
  | _ => rfl

/-- **A held dict against anything but a dict with as many entries: `basic` comes back untouched.** -/
theorem shape_mismatch_unchanged_dict (R : Nat → Tree) (kvs : List (String × Held)) (b : Tree)
    (hb : ∀ bkvs, b = .dict bkvs → kvs.length ≠ bkvs.length) :
    renderNested R (.dict kvs) b = b := by
  cases b with
  | dict bkvs => rw [renderNested, if_neg (hb bkvs rfl)]
  | _ => rfl

/-- Kinds that differ: a held list against a dict, a held dict against a list, anything else against anything. -/
theorem kind_mismatch_unchanged (R : Nat → Tree) (items : List Held) (kvs : List (String × Held)) (bs : List Tree)
    (bkvs : List (String × Tree)) (t b : Tree) :
    renderNested R (.list items) (.dict bkvs) = .dict bkvs ∧ renderNested R (.dict kvs) (.list bs) = .list bs ∧
    renderNested R (.leaf t) b = b :=
  ⟨rfl, rfl, rfl⟩

/-- A configuration object is rendered by its own `to_tree`, whatever the field made of it. -/
theorem config_rendered_by_to_tree (R : Nat → Tree) (id : Nat) (b : Tree) : renderNested R (.cfg id) b = R id := rfl

/-- When the shapes agree the walk is item-wise, over any `basic`: a list stays a list of the same length… -/
theorem list_walk_itemwise (R : Nat → Tree) (items : List Held) (bs : List Tree) (hl : items.length = bs.length) :
    renderNested R (.list items) (.list bs) = .list (List.zipWith (renderNested R) items bs) := by
  rw [renderNested, if_pos hl, renderItems_eq_zipWith]

/-- …and a dict keeps the keys of `basic`, in their order. -/
theorem dict_walk_keeps_keys (R : Nat → Tree) (kvs : List (String × Held)) (bkvs : List (String × Tree)) (hl : kvs.length = bkvs.length) :
    ∃ out, renderNested R (.dict kvs) (.dict bkvs) = .dict out ∧ out.map (·.1) = bkvs.map (·.1) ∧
      out = List.zipWith (fun e kb => (kb.1, renderNested R e.2 kb.2)) kvs bkvs := by
  refine ⟨renderVals R kvs bkvs, ?_, keys_renderVals R kvs bkvs hl, renderVals_eq_zipWith R kvs bkvs⟩
  rw [renderNested, if_pos hl]

section Demo

/-- the masked and the bare rendering of configuration `id`: one sensitive field `pw`, one plain field `n` -/
def masked (id : Nat) : Tree := .dict [("n", .int id), ("pw", .str "****".toList)]
def bare (id : Nat) : Tree := .dict [("n", .int id), ("pw", .str "s3cr".toList)]

/-- a grid (list of lists of configurations) with an empty row -/
def grid : Held := .list [.list [.cfg 1, .cfg 2], .list [], .list [.cfg 3]]

/-- a dict of lists: configurations, a plain leaf next to them, an empty list -/
def shelves : Held := .dict [("a", .list [.cfg 1, .leaf (.str "note".toList)]), ("b", .list []), ("c", .leaf (.int 7))]

example : toBasic bare grid = .list [.list [bare 1, bare 2], .list [], .list [bare 3]] := rfl

example : renderNested masked grid (toBasic bare grid) = .list [.list [masked 1, masked 2], .list [], .list [masked 3]] := rfl

example : renderNested masked shelves (toBasic bare shelves) =
    .dict [("a", .list [masked 1, .str "note".toList]), ("b", .list []), ("c", .int 7)] := rfl

/-- the walk keeps the keys of `basic` (here re-encoded by the field), not those recorded for the held dict -/
example : renderNested masked shelves (.dict [("A", .list [bare 1, .str "note".toList]), ("B", .list []), ("C", .int 7)]) =
    .dict [("A", .list [masked 1, .str "note".toList]), ("B", .list []), ("C", .int 7)] := rfl

/-- the leak and its absence, on the grid -/
example : (toBasic bare grid).mentions "s3cr".toList = true ∧
    (renderNested masked grid (toBasic bare grid)).mentions "s3cr".toList = false ∧ cfgIds grid = [1, 2, 3] := by decide +kernel

/-- a row that lost an item on the way: that row comes back as the field rendered it, the others are still walked -/
example : renderNested masked grid (.list [.list [bare 1], .list [], .list [bare 3]]) =
    .list [.list [bare 1], .list [], .list [masked 3]] := rfl

/-- kinds that differ, and a tuple rendered as a list of another length -/
example : renderNested masked grid (.str "x".toList) = .str "x".toList ∧
    renderNested masked grid (.list [.null]) = .list [.null] ∧
    renderNested masked shelves (.list [.null, .null, .null]) = .list [.null, .null, .null] := ⟨rfl, rfl, rfl⟩

end Demo

/-- **/repo's `Config._render_nested` is the walk `renderNested` models** (generated reading of cincoconfig/core.py, regenerated on
    every run): a configuration position is re-rendered with the caller's options; a held list or TUPLE is walked item by item
    alongside a rendering that is a list or a tuple of the same length (F77: an untyped field hands a tuple back as it is — the
    model's `Tree.list` stands for both, and the result keeps the rendering's type); a held dict alongside a dict of the same
    length, keeping the rendering's keys; anything else is returned as the field rendered it. -/
theorem render_nested_code_order :
    Generated.containerShape.lookup "Config._render_nested" =
      some ["if[isinstance(held, Config)]", "return held.to_tree(virtual=virtual, sensitive_mask=sensitive_mask)", "end",
            "if[isinstance(held, (list, tuple)) and isinstance(basic, (list, tuple)) and (len(held) == len(basic))]",
            "return type(basic)((self._render_nested(item, rendered, virtual, sensitive_mask) for item, rendered in zip(held, basic)))",
            "end",
            "if[isinstance(held, dict) and isinstance(basic, dict) and (len(held) == len(basic))]",
            "return {key: self._render_nested(item, rendered, virtual, sensitive_mask) for item, (key, rendered) in zip(held.values(), basic.items())}",
            "end", "return basic"] := by rfl

/-- **/repo's `Config.to_tree` has the order the mask model follows** (generated reading, regenerated on every run): per field —
    a held configuration is rendered with the caller's options; a non-empty LIST of configurations is rendered by the library
    itself only when a mask or the virtual flag has to be passed on AND the list field is not itself sensitive under a mask (F8,
    F60, F73: otherwise the field's own `to_basic` renders it, so a list field subclass keeps its on-disk form); a sensitive field
    under a mask is replaced by the mask (empty values stay `None`, a one-character mask is repeated to the length of `str(value)`);
    every other field is rendered by its `to_basic` (errors wrapped) and, under options, walked by `_render_nested`. -/
theorem to_tree_code_order :
    Generated.containerShape.lookup "Config.to_tree" =
      some ["tree = {}",
            "fields: Dict[str, BaseField] = dict(self._schema._fields)",
            "fields.update(self._fields)",
            "loop[fields.items()]",
            "is_virtual = virtual and isinstance(field, VirtualFieldMixin)",
            "if[key not in self._data and (not is_virtual)]",
            "continue",
            "end",
            "if[isinstance(field, InstanceMethodFieldMixin)]",
            "continue",
            "end",
            "field_value = field.__getval__(self)",
            "value: Any = None",
            "if[isinstance(field_value, Config)]",
            "value = field_value.to_tree(virtual=virtual, sensitive_mask=sensitive_mask)",
            "else",
            "if[(virtual or sensitive_mask is not None) and isinstance(field_value, list) and field_value and all((isinstance(item, Config) for item in field_value)) and (not (isinstance(field, Field) and field.sensitive and (sensitive_mask is not None)))]",
            "value = [item.to_tree(virtual=virtual, sensitive_mask=sensitive_mask) for item in field_value]",
            "else",
            "if[isinstance(field, Field) and field.sensitive and (sensitive_mask is not None)]",
            "if[not field_value]",
            "pass",
            "else",
            "if[len(sensitive_mask) == 1]",
            "value = sensitive_mask * len(str(field_value))",
            "else",
            "value = sensitive_mask",
            "end",
            "end",
            "else",
            "if[isinstance(field, Field)]",
            "try",
            "value = field.to_basic(self, field_value)",
            "except:ValidationError",
            "raise",
            "except:Exception",
            "raise:ValidationError",
            "end",
            "if[virtual or sensitive_mask is not None]",
            "value = self._render_nested(field_value, value, virtual, sensitive_mask)",
            "end",
            "end",
            "end",
            "end",
            "end",
            "tree[key] = value",
            "end",
            "return tree"] := by rfl

end Cinco.C10b
