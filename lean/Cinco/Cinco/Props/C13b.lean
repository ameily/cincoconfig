import Cinco.Proofs.HeapTransfer
import Cinco.Props.C13
import Cinco.Generated.FastPaths
/-
  C13b — a typed container handed from one configuration to another carries no shared mutable state.

  Model: `Cinco/Heap/Transfer.lean` (`transfer S s i j path key mode`: `cfg_i.<path>.key = cfg_j.key`, on the heap model of
  C13).  `mode = .revalidate` is the repaired library (the receiving field validates, hence re-creates, every level of the
  value: a deep copy owned by the receiver); `mode = .adopt` is the defect (new top-level container, the giver's own inner
  containers).

  The theorems say that a guarded transfer behaves like one more kind of step of the C13 model (both are an `Acts`): it
  preserves `Inv` (`Sep` + `Bounded` + `NoShare`), it is invisible through every other root (the giver included) and in the declared
  defaults, the receiver reads back exactly what the giver held, and — because `Inv` holds afterwards — every frame theorem
  of `Props/C13.lean` applies to whatever happens after the transfer.  None of this needs `AllDeep` for the transfer itself
  (the copy is deep whatever the schema table says); `AllDeep` is needed only for the ordinary steps of a history.
  `transfer_revalidate_inv`, `_frame`, `_frame_fuel`, `_frame_paths` and `_frame_below_path` nevertheless carry a hypothesis
  `_hS : AllDeep S` that their proofs do not use, so that they are stated like their step counterparts in `Props/C13.lean`.
  The `Demo` section shows by evaluation that all of it fails for `.adopt`.
-/
namespace Cinco.C13b
open Cinco.Heap

/-! ## 1. a guarded transfer preserves the invariant -/

/-- **A guarded transfer preserves the whole invariant** (`Sep`, `Bounded`, `NoShare`), whatever its outcome.
    (`AllDeep S` is not used: the hypothesis is kept so that the statement has the form of `inv_step`.) -/
theorem transfer_revalidate_inv {S : Schemas} (_hS : AllDeep S) {s : State} (hs : Inv S s) (i j : Nat) (path : List PStep)
    (key : String) : Inv S (transfer S s i j path key .revalidate).1 :=
  (transfer_acts hs.sep i j path key).inv hs

/-- a transfer never creates or removes a root, in either mode -/
theorem transfer_roots_unchanged (S : Schemas) (s : State) (i j : Nat) (path : List PStep) (key : String) (mode : TransferMode) :
    (transfer S s i j path key mode).1.roots = s.roots := transfer_roots S s i j path key mode

/-- every error leaves the state exactly as it was, in either mode -/
theorem transfer_error_unchanged (S : Schemas) (s : State) (i j : Nat) (path : List PStep) (key : String) (mode : TransferMode)
    (err : (transfer S s i j path key mode).2 ≠ .ok) : (transfer S s i j path key mode).1 = s := by
  cases transfer_res S s i j path key mode with
  | failed e _ => exact e
  | done ri rj c v h' _ _ _ _ _ e => rw [e] at err; exact absurd rfl err

/-- a guarded transfer into root `i` writes only cells owned by `cfg i` and allocates only cells owned by `cfg i` -/
theorem transfer_writes_only_own {S : Schemas} {s : State} (hs : Sep S s) (i j : Nat) (path : List PStep) (key : String) :
    Ext i s.heap (transfer S s i j path key .revalidate).1.heap := (transfer_acts hs i j path key).shape.ext

/-! ## 2. frame: a guarded transfer into root `i` is invisible through every other root -/

/-- **Frame.**  In any state satisfying the invariant, a guarded transfer into root `i` (from any giver `j`, at any path,
    successful or not) leaves the deep observation and the dynamic-field list of every root `k ≠ i` unchanged, and leaves
    every declared default unchanged.  (For a root `k` not yet built both sides are `none`.) -/
theorem transfer_revalidate_frame {S : Schemas} (_hS : AllDeep S) {s : State} (hs : Inv S s) {i k : Nat} (hik : i ≠ k)
    (j : Nat) (path : List PStep) (key : String) :
    (transfer S s i j path key .revalidate).1.cfg k = s.cfg k ∧
    (transfer S s i j path key .revalidate).1.dyn k = s.dyn k ∧
    obsDefaults (transfer S s i j path key .revalidate).1.heap S = obsDefaults s.heap S :=
  let act := transfer_acts hs.sep i j path key
  ⟨act.cfg_other hs.sep hs.bounded hik, act.dyn_other hs.sep hik, act.shape.defaults hs.sep hs.bounded⟩

/-- the same at every explicit fuel -/
theorem transfer_revalidate_frame_fuel {S : Schemas} (_hS : AllDeep S) {s : State} (hs : Inv S s) {i k : Nat} (hik : i ≠ k)
    (j : Nat) (path : List PStep) (key : String) (n : Nat) :
    (transfer S s i j path key .revalidate).1.cfgN n k = s.cfgN n k ∧
    obsDefaultsN n (transfer S s i j path key .revalidate).1.heap S = obsDefaultsN n s.heap S :=
  let act := transfer_acts hs.sep i j path key
  ⟨act.cfgN_other hs.sep hik n, act.shape.defaultsN hs.sep n⟩

/-- **in particular the giver** (when it is another root) observes the same before and after, at the built-in and at every
    explicit fuel -/
theorem transfer_revalidate_giver_unchanged {S : Schemas} (hS : AllDeep S) {s : State} (hs : Inv S s) {i j : Nat} (hij : i ≠ j)
    (path : List PStep) (key : String) :
    (transfer S s i j path key .revalidate).1.cfg j = s.cfg j ∧
    (transfer S s i j path key .revalidate).1.dyn j = s.dyn j ∧
    ∀ n, (transfer S s i j path key .revalidate).1.cfgN n j = s.cfgN n j :=
  let f := transfer_revalidate_frame hS hs hij j path key
  ⟨f.1, f.2.1, fun n => (transfer_revalidate_frame_fuel hS hs hij j path key n).1⟩

/-- configurations at any path below another root `k ≠ i` (sub-configurations, items of configuration lists) neither move
    nor change -/
theorem transfer_revalidate_frame_paths {S : Schemas} (_hS : AllDeep S) {s : State} (hs : Inv S s) {i k : Nat} (hik : i ≠ k)
    (j : Nat) (path : List PStep) (key : String) {pB : List PStep} {B : Nat} (hB : s.at k pB = some B) :
    (transfer S s i j path key .revalidate).1.at k pB = some B ∧
    (transfer S s i j path key .revalidate).1.cfgAt k pB = s.cfgAt k pB :=
  (transfer_acts hs.sep i j path key).at_other hs.sep hs.bounded hik hB

/-- inside the receiving root, the observation of the configuration at path `pB` changes only if `pB` is a prefix of the
    transfer's path (i.e. only if the receiver is that configuration or lies inside it) -/
theorem transfer_revalidate_frame_below_path {S : Schemas} (_hS : AllDeep S) {s : State} (hs : Inv S s) (i j : Nat)
    (path : List PStep) (key : String) {pB : List PStep} (hp : ¬ pB <+: path) {B : Nat} (hB : s.at i pB = some B) :
    obsCfg (transfer S s i j path key .revalidate).1.heap B = obsCfg s.heap B :=
  (transfer_acts hs.sep i j path key).obs_path hs hp hB

/-! ## 3. everything that happens after a guarded transfer is covered by C13 -/

/-- **The invariant holds after a guarded transfer followed by any history** (any interleaving of `build`s and operations
    on any roots), so every theorem of `Props/C13.lean` stated under `Inv` / `Sep` / `Bounded` applies there. -/
theorem transfer_then_history_inv {S : Schemas} (hS : AllDeep S) {s : State} (hs : Inv S s) (i j : Nat) (path : List PStep)
    (key : String) (hist : List (Nat × Op)) : Inv S (run S (transfer S s i j path key .revalidate).1 hist) :=
  inv_run hS hist (transfer_revalidate_inv hS hs i j path key)

/-- for instance the sequence frame theorem of C13: after a guarded transfer and any history, operations on a root `a` are
    invisible through every other root `k` (giver and receiver of the transfer included) and in the declared defaults -/
theorem transfer_then_history_frame {S : Schemas} (hS : AllDeep S) {s : State} (hs : Inv S s) (i j : Nat) (path : List PStep)
    (key : String) (hist : List (Nat × Op)) {a k : Nat} (hak : a ≠ k) (ops : List Op) :
    (runOn S (run S (transfer S s i j path key .revalidate).1 hist) a ops).cfg k =
      (run S (transfer S s i j path key .revalidate).1 hist).cfg k ∧
    (runOn S (run S (transfer S s i j path key .revalidate).1 hist) a ops).dyn k =
      (run S (transfer S s i j path key .revalidate).1 hist).dyn k ∧
    obsDefaults (runOn S (run S (transfer S s i j path key .revalidate).1 hist) a ops).heap S =
      obsDefaults (run S (transfer S s i j path key .revalidate).1 hist).heap S :=
  let inv := transfer_then_history_inv hS hs i j path key hist
  C13.frame_other_config_seq hS inv.sep inv.bounded hak ops

/-! ## 4. read-back: the receiver holds what the giver held -/

/-- **Read-back.**  After a successful guarded transfer the value observed under `key` in the receiver (the configuration
    at `path` below root `i`) equals the value observed under `key` in the giver (root `j`) before — with the built-in fuel and
    at every explicit fuel —, that value exists (both sides are `some`), and the receiver is the configuration cell it was.
    Needs only `Inv S s` (no `AllDeep`); `i = j` is allowed. -/
theorem transfer_observes_giver {S : Schemas} {s : State} (hs : Inv S s) {i j : Nat} {path : List PStep} {key : String}
    (ok : (transfer S s i j path key .revalidate).2 = .ok) :
    (transfer S s i j path key .revalidate).1.val i path key = s.val j [] key ∧
    (∀ n, (transfer S s i j path key .revalidate).1.valN n i path key = s.valN n j [] key) ∧
    (s.val j [] key).isSome ∧
    (transfer S s i j path key .revalidate).1.at i path = s.at i path := by
  cases transfer_res S s i j path key .revalidate with
  | failed _ ne => exact absurd ok ne
  | done ri rj c v h' hi hj hv hn hx e =>
    obtain ⟨kj, slj, dyj, hcj, hlj⟩ := heldValue_ok hv
    obtain ⟨k, sl, dy, disc, dv, hcc, _, eh⟩ := execTransfer_ok hx
    obtain ⟨oc, ec⟩ := Heap.cell?_some hcc
    have fr := transferValue_allocates (.cfg i) v s.heap
    -- the giver's value is owned by the giver
    obtain ⟨crj, erj⟩ := hs.sep.roots j rj hj
    rw [Heap.cell?_eq erj, Option.some.injEq] at hcj
    subst hcj
    have ov : OwnedBy s.heap (.cfg j) v := hs.sep.closed rj _ _ erj v (lookup_mem hlj)
    -- the state after: the receiver is where it was and holds the copy under `key`
    have hnav : navCfg h' ri path = .ok c := eh ▸ navCfg_write_end fr.1 hs.bounded hn _ _ _
    have hcell : h'.cell? c = some (.cfg k (put key (transferValue (.cfg i) .revalidate v s.heap).1 sl) dy) := by
      rw [eh]
      exact Heap.cell?_eq (Heap.get?_write_self _ (fr.1.get?_of ec))
    have hg : ∀ n, s.valN n j [] key = some (readV n s.heap v) :=
      State.valN_of hj (IsCfg.nav_nil ⟨_, _, _, Heap.cell?_eq erj⟩) (Heap.cell?_eq erj) hlj
    have hr : ∀ n, (transfer S s i j path key .revalidate).1.valN n i path key = some (readV n s.heap v) := by
      intro n
      rw [e, State.valN_of (s := { s with heap := h' }) hi hnav hcell (lookup_put_self _ _ _) n, eh,
        transfer_read_back hs.sep.closed hs.bounded ov (Heap.get?_lt ec) _ n]
    have hle := fr.1.next_le
    refine ⟨?_, fun n => by rw [hr n, hg n], ?_, ?_⟩
    · rw [State.val_eq_valN, State.val_eq_valN, hr, hg, e, eh]
      simp only [Option.some.injEq, Heap.next_write]
      exact read_fuel_irrelevant hs.bounded ov (by omega) (by omega)
    · rw [State.val_eq_valN, hg]; rfl
    · rw [e, State.at_of hi hn]
      exact State.at_of (s := { s with heap := h' }) hi hnav

/-! ## 5. the mode is not decoration (all by kernel evaluation of the model) -/

section Demo

/-- schema 0: a typed list of lists `rows` with the nested default `[["1"]]`, and a sub-configuration `inner` of schema 1,
    which has a typed list `rows` of its own -/
def tspec : List SchemaSpec :=
  [{ fields := [("rows", .leaf .deep (.list [.list [.atom "1"]])), ("inner", .sub 1)], dynamic := false },
   { fields := [("rows", .leaf .deep (.list []))], dynamic := false }]

def TS : Schemas := initS tspec

theorem tspec_deep : AllDeep TS := allDeep_of_check (by decide)

/-- `cfg.rows[0].append("7")` -/
def fill : Op := .mut [] "rows" [.idx 0] (.append (.atom "7"))
/-- `cfg.rows[0].append("9")`: an append *below* the top level -/
def appendInner : Op := .mut [] "rows" [.idx 0] (.append (.atom "9"))

/-- two roots built, the second one changed so that the transfer is visible -/
def pre : List (Nat × Op) := [(0, .build), (1, .build), (1, fill)]
def base : State := C13.reached tspec pre

/-- the hypotheses of the theorems are satisfied by `base` -/
theorem base_inv : Inv TS base := C13.inv_reached tspec tspec_deep pre

example : base.cfg 0 = some (.dict [("rows", .list [.list [.atom "1"]]), ("inner", .dict [("rows", .list [])])]) ∧
    base.cfg 1 = some (.dict [("rows", .list [.list [.atom "1", .atom "7"]]), ("inner", .dict [("rows", .list [])])]) := by
  decide +kernel

/-- `cfg0.rows = cfg1.rows`, defective and repaired -/
def adopted : State := (transfer TS base 0 1 [] "rows" .adopt).1
def guarded : State := (transfer TS base 0 1 [] "rows" .revalidate).1

/-- both transfers succeed, and right afterwards both receivers read what the giver holds -/
example : (transfer TS base 0 1 [] "rows" .adopt).2 = .ok ∧ (transfer TS base 0 1 [] "rows" .revalidate).2 = .ok ∧
    adopted.val 0 [] "rows" = some (.list [.list [.atom "1", .atom "7"]]) ∧
    guarded.val 0 [] "rows" = some (.list [.list [.atom "1", .atom "7"]]) ∧
    base.val 1 [] "rows" = some (.list [.list [.atom "1", .atom "7"]]) := by decide +kernel

/-- **`adopt`**: one append below the top level through the receiver (root 0) is seen through the giver (root 1): the
    conclusion of the frame theorem (`C13.frame_other_config` after the transfer, i.e. `transfer_then_history_frame` with
    the empty history) FAILS (`adopt_breaks_noShare`, `adopt_breaks_sep`: its hypothesis does) -/
theorem adopt_leaks :
    (step TS adopted 0 appendInner).1.cfg 1 =
      some (.dict [("rows", .list [.list [.atom "1", .atom "7", .atom "9"]]), ("inner", .dict [("rows", .list [])])]) ∧
    (step TS adopted 0 appendInner).1.cfg 1 ≠ adopted.cfg 1 ∧
    (runOn TS (run TS adopted []) 0 [appendInner]).cfg 1 ≠ (run TS adopted []).cfg 1 :=
  by decide +kernel

/-- the invariant is broken right after the `adopt` transfer: the giver's inner list (cell 8) is referenced twice (from cells 9 and 13)
    (`NoShare` fails), and a cell owned by `cfg 0` refers to a cell owned by `cfg 1` (`Closed`, hence `Sep`, fails) -/
theorem adopt_breaks_noShare : ¬ NoShare adopted.heap := not_noShare_of_check (by decide +kernel)

theorem adopt_breaks_inv : ¬ Inv TS adopted := fun inv => adopt_breaks_noShare inv.noShare

theorem adopt_breaks_sep : ¬ Sep TS adopted := fun hs => by
  have e13 : adopted.heap.get? 13 = some (.cfg 0, .list [.ref 8]) := by decide +kernel
  have e8 : adopted.heap.get? 8 = some (.cfg 1, .list [.atom "1", .atom "7"]) := by decide +kernel
  obtain ⟨c, e⟩ := hs.closed 13 _ _ e13 (.ref 8) (by simp [Cell.kids])
  rw [e8] at e
  simp at e

/-- **`revalidate`**: the same scenario as for `adopt`.  The transfer itself and the append afterwards leave root 1 and the declared
    defaults unchanged — as instances of the theorems, every hypothesis discharged -/
theorem guarded_framed :
    guarded.cfg 1 = base.cfg 1 ∧ guarded.dyn 1 = base.dyn 1 ∧ obsDefaults guarded.heap TS = obsDefaults base.heap TS :=
  transfer_revalidate_frame tspec_deep base_inv (i := 0) (k := 1) (by decide) 1 [] "rows"

theorem guarded_then_append_framed :
    (runOn TS (run TS guarded []) 0 [appendInner]).cfg 1 = (run TS guarded []).cfg 1 ∧
    (runOn TS (run TS guarded []) 0 [appendInner]).dyn 1 = (run TS guarded []).dyn 1 ∧
    obsDefaults (runOn TS (run TS guarded []) 0 [appendInner]).heap TS = obsDefaults (run TS guarded []).heap TS :=
  transfer_then_history_frame tspec_deep base_inv 0 1 [] "rows" [] (a := 0) (k := 1) (by decide) [appendInner]

theorem guarded_inv : Inv TS guarded := transfer_revalidate_inv tspec_deep base_inv 0 1 [] "rows"

theorem guarded_read_back : guarded.val 0 [] "rows" = base.val 1 [] "rows" :=
  (transfer_observes_giver base_inv (i := 0) (j := 1) (path := []) (key := "rows") (by decide +kernel)).1

/-- the `revalidate` scenario by evaluation: the operations did happen (the statements are not about failing operations), root 1 is unchanged,
    and the executable `NoShare` check agrees -/
example : (step TS guarded 0 appendInner).1.cfg 0 =
      some (.dict [("rows", .list [.list [.atom "1", .atom "7", .atom "9"]]), ("inner", .dict [("rows", .list [])])]) ∧
    (step TS guarded 0 appendInner).1.cfg 1 =
      some (.dict [("rows", .list [.list [.atom "1", .atom "7"]]), ("inner", .dict [("rows", .list [])])]) ∧
    (step TS guarded 0 appendInner).2 = .ok ∧ (step TS adopted 0 appendInner).2 = .ok ∧
    noShareB guarded.heap = true ∧ noShareB adopted.heap = false := by decide +kernel

/-- a transfer into a sub-configuration (`cfg0.inner.rows = cfg1.rows`), a transfer within one root (`i = j`), and the errors -/
example : (transfer TS base 0 1 [.fld "inner"] "rows" .revalidate).2 = .ok ∧
    (transfer TS base 0 1 [.fld "inner"] "rows" .revalidate).1.cfg 0 =
      some (.dict [("rows", .list [.list [.atom "1"]]), ("inner", .dict [("rows", .list [.list [.atom "1", .atom "7"]])])]) ∧
    (transfer TS base 1 1 [.fld "inner"] "rows" .revalidate).1.cfg 1 =
      some (.dict [("rows", .list [.list [.atom "1", .atom "7"]]),
                   ("inner", .dict [("rows", .list [.list [.atom "1", .atom "7"]])])]) ∧
    transfer TS base 0 2 [] "rows" .revalidate = (base, .nocfg) ∧
    transfer TS base 2 0 [] "rows" .revalidate = (base, .nocfg) ∧
    transfer TS base 0 1 [] "nokey" .revalidate = (base, .attr) ∧
    transfer TS base 0 1 [] "inner" .revalidate = (base, .type) ∧
    transfer TS base 0 1 [.fld "nosub"] "rows" .revalidate = (base, .attr) :=
  -- states have no decidable equality: the five error cases are compared by unfolding
  ⟨by decide +kernel, by decide +kernel, by decide +kernel, rfl, rfl, rfl, rfl, rfl⟩

end Demo

/-! ## 6. tie to the source: the proxies' fast paths

The translator (`harness/extract.py`, `proxy_fast_paths`) lists every place where `ListProxy` / `DictProxy` take the items of
another proxy without validating them, and whether the test guarding it also requires that proxy to belong to the same
configuration (`x.cfg is …`, or `_is_compatible_proxy`, whose body compares the two `cfg`s by identity).  A guarded fast path is
only ever taken inside one configuration, so a value arriving from another configuration goes through validation, which
re-creates every level: `TransferMode.revalidate`.  An unguarded one adopts the other configuration's inner proxies:
`TransferMode.adopt`, for which section `Demo` shows every conclusion above failing.  The correspondence check gives the model's
transfer step the mode this table says. -/

def modeOfGuard : Bool → TransferMode
  | true => .revalidate
  | false => .adopt

/-- **Every fast path of the current source is guarded by the identity of the owning configuration.** -/
theorem source_fast_paths_guarded : ∀ e ∈ Generated.proxyFastPaths, modeOfGuard e.2 = .revalidate := by
  decide

end Cinco.C13b
