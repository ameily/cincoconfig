import Cinco.Proxy.CopyDepth
/-
  C17 (continuation) — a copy of a typed list of lists is ONE level deep, as `list.copy()` is.
  Model `Proxy/CopyDepth.lean`.  `deep_copy_differs` is the witness that tells the one-level copy from a deep one on a
  three-step history; the `copydepth` stream drives the same histories on real typed lists and compares every view with the model.
-/
namespace Cinco.C17c
open Cinco.CopyDepth

theorem get_alloc_old (h : H) (c : Cell) (a : Nat) (ha : a < h.cells.length) : (h.alloc c).2.get a = h.get a := by
  simp [H.alloc, H.get, List.getElem?_append_left ha]

theorem get_alloc_new (h : H) (c : Cell) : (h.alloc c).2.get h.cells.length = some c := by
  simp [H.alloc, H.get]

theorem get_write_same (h : H) (a : Nat) (c : Cell) (ha : a < h.cells.length) : (h.write a c).get a = some c := by
  simp [H.write, H.get, ha]

theorem get_write_other (h : H) (a b : Nat) (c : Cell) (hne : b ≠ a) : (h.write a c).get b = h.get b := by
  simp [H.write, H.get, List.getElem?_set_ne (Ne.symm hne)]

theorem lt_of_get (h : H) (a : Nat) (c : Cell) (hg : h.get a = some c) : a < h.cells.length :=
  (List.getElem?_eq_some_iff.1 hg).1

/-- a copy is one new cell, at the next address, that holds the same references; every cell there was reads as before -/
theorem get_copy (h : H) (a : Nat) (refs : List Nat) (ha : h.get a = some (.outer refs)) :
    (step h (.copy a)).get h.cells.length = some (.outer refs) ∧
    ∀ b < h.cells.length, (step h (.copy a)).get b = h.get b := by
  have e : step h (.copy a) = (h.alloc (.outer refs)).2 := by simp only [step.eq_def, ha]
  exact e ▸ ⟨get_alloc_new h _, get_alloc_old h _⟩

/-- appending a number to an inner object (or to nothing: no effect) leaves every outer object as it is -/
theorem get_appendAtom_outer (h : H) (a b n : Nat) (refs : List Nat) (ha : h.get a = some (.outer refs)) :
    (step h (.appendAtom b n)).get a = some (.outer refs) := by
  simp only [step.eq_def]
  split
  · rename_i items hb
    have hne : a ≠ b := fun e => by rw [e, hb] at ha; cases ha
    rw [get_write_other h b a _ hne, ha]
  · exact ha

/-- **the copy holds the same references**: the new outer object is `h.cells.length`, and its references are the original's -/
theorem copy_same_refs (h : H) (a : Nat) (refs : List Nat) (ha : h.get a = some (.outer refs)) :
    refsOf (step h (.copy a)) h.cells.length = refs ∧ refsOf (step h (.copy a)) a = refs := by
  have ⟨hnew, hold⟩ := get_copy h a refs ha
  simp only [refsOf, hnew, hold a (lt_of_get h a _ ha), ha, and_self]

/-- **right after the copy both show the same** (every reference of the original is an allocated object) -/
theorem copy_same_view (h : H) (a : Nat) (refs : List Nat) (ha : h.get a = some (.outer refs)) (hwf : ∀ b ∈ refs, b < h.cells.length) :
    view (step h (.copy a)) h.cells.length = view h a ∧ view (step h (.copy a)) a = view h a := by
  have ⟨hnew, hold⟩ := get_copy h a refs ha
  -- an inner object reads the same after the copy was taken
  have hmap : refs.map (itemsOf (step h (.copy a))) = refs.map (itemsOf h) :=
    List.map_congr_left fun b hb => by simp only [itemsOf, hold b (hwf b hb)]
  simp only [view, hnew, hold a (lt_of_get h a _ ha), ha, hmap, and_self]

/-- **an edit of an inner list shows through every outer list that references it** — the original and each of its copies alike:
    two outer objects with the same references have the same view after a number was appended to any inner object -/
theorem inner_edit_shows_through_both (h : H) (a c b n : Nat) (refs : List Nat)
    (ha : h.get a = some (.outer refs)) (hc : h.get c = some (.outer refs)) :
    view (step h (.appendAtom b n)) a = view (step h (.appendAtom b n)) c := by
  simp only [view, get_appendAtom_outer h _ b n refs ha, get_appendAtom_outer h _ b n refs hc]

/-- and the appended number is really there: an inner object `b` that `a` references now ends in `n`, and `a` shows it -/
theorem inner_edit_visible (h : H) (a b n : Nat) (refs items : List Nat)
    (ha : h.get a = some (.outer refs)) (hb : h.get b = some (.inner items)) (hmem : b ∈ refs) :
    (items ++ [n]) ∈ view (step h (.appendAtom b n)) a := by
  simp only [view, get_appendAtom_outer h a b n refs ha, List.mem_map]
  refine ⟨b, hmem, ?_⟩
  simp only [step.eq_def, hb, itemsOf, get_write_same h b _ (lt_of_get h b _ hb)]

/-- **an edit of one outer list is private to it**: appending a new inner list to `a`, or dropping its last entry, leaves the
    references of every other outer object as they are -/
theorem outer_edit_is_private (h : H) (a c : Nat) (hne : c ≠ a) (hc : c < h.cells.length) :
    refsOf (step h (.appendNew a)) c = refsOf h c ∧ refsOf (step h (.dropLast a)) c = refsOf h c := by
  simp only [step.eq_def]
  split
  · simp only [refsOf, get_write_other _ a c _ hne, get_alloc_old h _ c hc, and_self]
  · exact ⟨rfl, rfl⟩

/-- the history `l.append([]); x = l.copy(); l[0].append(7)`: through the one-level copy the 7 shows, through a deep copy it does not -/
theorem deep_copy_differs :
    let h := run init [.appendNew 0]
    view (step (step h (.copy 0)) (.appendAtom 1 7)) 2 = [[7]] ∧
    view (step (deepCopy h 0) (.appendAtom 1 7)) 3 = [[]] := by decide +kernel

/-- premises satisfiable: a state with an outer list referencing two inner lists, all allocated -/
example : let h := run init [.appendNew 0, .appendNew 0, .appendAtom 1 5]
    h.get 0 = some (.outer [1, 2]) ∧ (∀ b ∈ [1, 2], b < h.cells.length) ∧ view h 0 = [[5], []] := by decide +kernel

end Cinco.C17c
