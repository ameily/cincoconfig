import Cinco.Generated.ContainerShape
/-
  C15 (finding F74) — the path of a configuration is the path of its parent plus its own key, whatever the parent holds.

  `Config._ref_path` walks up the parent links.  It tested the parent for TRUTH (`if self._parent:`); a config-type subclass may
  define `__len__` / `__bool__` (a pool is as long as its member list), so an empty pool was taken for "no parent" and everything
  below it lost the front of its path.  After the repair the test is `is not None`.  A chain of configurations is modelled
  leaf-first: the configuration itself, its parent, the parent's parent, … up to (not including) the unnamed root.  A path is the
  list of its dotted components, root first.
-/
namespace Cinco.C15c

/-- one configuration on the chain: the key it is mounted under and what `bool(cfg)` gives -/
structure Node where
  key : String
  truthy : Bool
  deriving Repr, DecidableEq

/-- `Config._ref_path` after F74 (`if self._parent is not None`): the parent's components, then the key -/
def pathKeys : List Node → List String
  | [] => []
  | n :: ancestors => pathKeys ancestors ++ [n.key]

/-- `Config._ref_path` before F74 (`if self._parent:`): a parent that tests false ends the walk -/
def pathKeysTruthy : List Node → List String
  | [] => []
  | [n] => [n.key]
  | n :: p :: rest => if p.truthy then pathKeysTruthy (p :: rest) ++ [n.key] else [n.key]

/-- **The path names every ancestor, root first — whatever the ancestors hold** (their truth value plays no part). -/
theorem path_names_every_ancestor : ∀ (chain : List Node), pathKeys chain = (chain.map (·.key)).reverse := by
  intro chain
  induction chain with
  | nil => rfl
  | cons n rest ih => simp [pathKeys, ih]

/-- … in particular two chains that differ only in what the configurations hold have the same path. -/
theorem path_ignores_contents (a b : List Node) (h : a.map (·.key) = b.map (·.key)) : pathKeys a = pathKeys b := by
  rw [path_names_every_ancestor, path_names_every_ancestor, h]

/-- While every ancestor tests true the two readings agree — which is why plain schemas and config types never showed F74. -/
theorem truthy_agrees : ∀ (chain : List Node), (∀ a ∈ chain.tail, a.truthy = true) → pathKeysTruthy chain = pathKeys chain := by
  intro chain
  induction chain with
  | nil => intro _; rfl
  | cons n rest ih =>
    intro h
    cases rest with
    | nil => simp [pathKeysTruthy, pathKeys]
    | cons p rest =>
      have hp : p.truthy = true := h p (by simp)
      have ih := ih (fun a ha => h a (by simp at ha ⊢; exact Or.inr ha))
      simp only [pathKeysTruthy, hp, if_true, ih, pathKeys]

/-- **A parent that tests false cut the path** (F74 in the model): everything above the configuration was lost. -/
theorem falsy_parent_cut (n p : Node) (rest : List Node) (h : p.truthy = false) : pathKeysTruthy (n :: p :: rest) = [n.key] := by
  simp [pathKeysTruthy, h]

/-- the replayed witness: `lb.pool.opts` below an empty `Pool` (a config type whose `__len__` is the number of members) -/
example : pathKeysTruthy [⟨"opts", true⟩, ⟨"pool", false⟩, ⟨"lb", true⟩] = ["opts"] ∧
    pathKeys [⟨"opts", true⟩, ⟨"pool", false⟩, ⟨"lb", true⟩] = ["lb", "pool", "opts"] := by decide +kernel

/-- does the skeleton test the parent link with `is not None`, and nowhere for truth? -/
def testsParentByIdentity (shape : Option (List String)) : Bool :=
  match shape with
  | none => false
  | some ls => ls.contains "if[self._parent is not None]" && !ls.contains "if[self._parent]" && !ls.contains "if[not self._parent]"

/-- **/repo's three walks up the parent links test the link by identity** (generated reading of `Config._ref_path`, `Config._keyfile`
    and `Config._key_filename`, regenerated on every run): `pathKeys` — not `pathKeysTruthy` — is the reading of the code, for the
    error path (C15) and for the key file a secret is sealed with (C03) alike. -/
theorem parent_walks_code :
    testsParentByIdentity (Generated.containerShape.lookup "Config._ref_path") = true ∧
    testsParentByIdentity (Generated.containerShape.lookup "Config._keyfile") = true ∧
    testsParentByIdentity (Generated.containerShape.lookup "Config._key_filename") = true ∧
    ((Generated.containerShape.lookup "Config._ref_path").bind List.head?) = some "if[self._parent is not None]" := by decide +kernel

end Cinco.C15c
