import Cinco.Proofs.Cfg
/-
  C11 — a load that returns means required fields are set and every validator passed.
-/
namespace Cinco.C11
open Cinco Cinco.Field Cinco.Config

theorem validateFields_eq_head (W : World) (fuel : Nat) (path : String) (c : Cfg) (fs : List (String × SField)) :
    validateFields W fuel path c fs = (fs.filterMap (fun (k, f) => fieldProblem W fuel path c k f)).head? := by
  induction fs with
  | nil => simp [validateFields]
  | cons p rest ih =>
    obtain ⟨k, f⟩ := p
    rw [validateFields]
    cases hp : fieldProblem W fuel path c k f with
    | some e => simp [hp]
    | none => simp [hp, ih]

theorem head?_failing {α β : Type} (p : α → Bool) (e : β) (l : List α) :
    (l.filterMap fun v => if p v then none else some e).head? = if l.all p then none else some e := by
  induction l with
  | nil => rfl
  | cons a l ih =>
    cases h : p a
    · simp [h]
    · simp [h, ih]

/-- **Raising mode raises the first error collecting mode collects.** -/
theorem validateCfg_eq_head (W : World) (fuel : Nat) (s : Schema) (path : String) (c : Cfg) :
    validateCfg W (fuel + 1) s path c = (validateCollect W fuel s path c).head? := by
  rw [validateCfg, validateCollect]
  split
  · rfl
  · rw [validateFields_eq_head, List.head?_append, head?_failing]
    cases (s.fields.filterMap fun (k, f) => fieldProblem W fuel path c k f).head? <;> rfl

theorem validateCfg_none_iff (W : World) (fuel : Nat) (s : Schema) (path : String) (c : Cfg) :
    validateCfg W (fuel + 1) s path c = none ↔
      (featureEnabled s c = false ∨
       ((∀ kf ∈ s.fields, fieldProblem W fuel path c kf.1 kf.2 = none) ∧ (∀ v ∈ s.validators, schemaValidator v c = true))) := by
  rw [validateCfg_eq_head, List.head?_eq_none_iff, validateCollect]
  cases hen : featureEnabled s c with
  | false => simp
  | true =>
    simp only [Bool.not_true, Bool.false_eq_true, if_false, List.append_eq_nil_iff, List.filterMap_eq_nil_iff, reduceCtorEq,
      false_or]
    refine and_congr Iff.rfl (forall₂_congr fun v _ => ?_)
    cases schemaValidator v c <;> simp

/-- **A validation that returns means every validator passed and no field is in violation**, in every enabled
    (sub)configuration: the configuration's own fields, its schema validators, and (recursively, by the same statement one
    level down) every nested configuration.  Fields are taken by membership in `s.fields`, not by `s.get`: the loop of
    `_validate` runs over every declaration, a second one under the same key included. -/
theorem validate_ok_means (W : World) (fuel : Nat) (s : Schema) (path : String) (c : Cfg)
    (hok : validateCfg W (fuel + 1) s path c = none) (hen : featureEnabled s c = true) :
    (∀ k fs m v, (k, SField.leaf fs m) ∈ s.fields → c.get k = some (.val v) → ∃ v', validate W.fe.toEnv fs v = .ok v') ∧
    (∀ k s' sub, ((k, SField.sub s') ∈ s.fields ∨ ∃ kf, (k, SField.ctype s' kf) ∈ s.fields) → c.get k = some (.node sub) →
        validateCfg W fuel s' (joinPath path k) sub = none) ∧
    (∀ v ∈ s.validators, schemaValidator v c = true) := by
  rcases (validateCfg_none_iff W fuel s path c).1 hok with h | ⟨hall, hvs⟩
  · rw [hen] at h; cases h
  · refine ⟨?_, ?_, hvs⟩
    · intro k fs m v hmem hget
      have := hall (k, .leaf fs m) hmem
      simp only [fieldProblem, hget] at this
      cases hv : validate W.fe.toEnv fs v with
      | ok v' => exact ⟨v', rfl⟩
      | error e => simp [hv] at this
    · intro k s' sub hmem hget
      rcases hmem with hmem | ⟨kf, hmem⟩ <;> simpa [fieldProblem, hget] using hall _ hmem

/-- **Required means set**: a required field that passes validation holds a value (not `None`); for strings, lists and
    dicts the validators themselves refuse the empty value when required. -/
theorem required_not_none (E : Env) (k : Kind) (c : Option String) (v v' : Val) (h : validate E (.mk k true c) v = .ok v') : v ≠ .none := by
  intro e; subst e; simp [validate] at h

theorem required_string_nonempty (o : StrOpts) (v : Val) (t : Str) (h : strRule o true v = .ok t) : t ≠ [] := by
  cases v <;> simp only [strRule] at h <;> try (cases h; done)
  split at h
  · rename_i hc
    cases h
    intro e
    simp [strChecks, e] at hc
  · cases h

/-- **A load with validation that returns has run the whole validation** on the resulting configuration. -/
theorem load_ok_validated (W : World) : ∀ (entries : List (Val × Val)) (fuel : Nat) (s : Schema) (path : String) (c : Cfg) (n : Nat),
    (loadTree W fuel s path c entries true n).err = none →
    validateCfg W (fuel + 1) s path (loadTree W fuel s path c entries true n).cfg = none := by
  intro entries fuel s path c n h
  rw [loadTree_flag W fuel s path entries c true] at h ⊢
  cases he : (loadTree W fuel s path c entries false n).err with
  | some e => simp [he] at h
  | none => simpa [he] using h

/-- **Collecting mode finds something exactly when raising mode raises.** -/
theorem collect_iff_raise (W : World) (fuel : Nat) (s : Schema) (path : String) (c : Cfg) :
    (validateCollect W fuel s path c).isEmpty = false ↔ (validateCfg W (fuel + 1) s path c).isSome = true := by
  rw [validateCfg_eq_head]
  cases validateCollect W fuel s path c <;> simp

/-- **The feature flag exempts exactly its own configuration**: with the flag off nothing of this configuration is checked
    (and nothing is collected); whether a *parent* is checked never depends on this flag (`featureEnabled` of the parent reads
    only the parent's own flag fields). -/
theorem flag_off_exempt (W : World) (fuel : Nat) (s : Schema) (path : String) (c : Cfg) (h : featureEnabled s c = false) :
    validateCfg W (fuel + 1) s path c = none ∧ validateCollect W fuel s path c = [] := by
  constructor
  · exact (validateCfg_none_iff W fuel s path c).2 (Or.inl h)
  · simp [validateCollect, h]

end Cinco.C11
