import Cinco.Props.C12b
import Cinco.Props.C14
/-
  C14b — the statements of C14 (and of the read-back part of C01 / C12) that are not per-step:
  (1) the refinement of C12b lifted from the user-defined *status* to the *values*: over every finite history of
      assignments (accepted and rejected), tree loads (returning or raising midway) and resets on the leaf keys of one
      configuration level, the slot of every key is what a plain abstract map computes from the world and the schema alone
      (`step_commutes`, `run_commutes`, `value_run_refines`, `value_refines`, `level_refines`) — like the status machine of
      C12b it is a reading of `C12b.applyOp_state`, here through `Cfg.get`;
  (2) environment precedence over whole histories, read off that map: a leaf bound to a set variable starts at the
      variable's validated value and no sequence of document loads moves it (`env_value_survives_loads`), an assignment
      does and stays until the next accepted assignment / reset of that key (`assignment_beats_env`), a reset returns to
      the variable's value (`reset_returns_to_env`), and a key whose variable is unset, empty or opted out takes the
      loaded value (`no_binding_loads_apply`) — in fact the whole level behaves as the same schema without the binding
      (`unbound_equivalent`).

  The identity counter / tape position `next`: no operation on a leaf key of the level draws from it — `setValue` on a
  leaf, `resetValue` on a leaf key and `loadTree` over leaf keys all return `next` as they received it, and validation reads
  salts and hashes from the world (`W.fe`), not from the tape.  The abstract state nevertheless carries the counter
  (`Abs.next`) and the refinement theorems prove that the model's counter is the abstract one after every history, so the
  claim is a theorem (`step_commutes`), not an assumption; no restriction on field kinds is needed.
-/
namespace Cinco.C14b
open Cinco Cinco.Field Cinco.Config Cinco.Config.Defined Cinco.Config.ValueSpec Cinco.C12b

/-- the abstract state of one configuration level: what every key holds (`Slots = String → Option Slot`), and the
    identity counter -/
structure Abs where
  slot : Slots
  next : Nat

/-- the abstraction of a model state -/
def absOf (cn : Cfg × Nat) : Abs := ⟨cn.1.get, cn.2⟩

def Abs.store (A : Abs) (k : String) : Option Val → Abs
  | some v => ⟨A.slot.put k (.val v), A.next⟩
  | none => A

/-- **The specification of the values**: an accepted assignment maps its key to the validated value, a rejected one changes
    nothing; an accepted reset maps its key to the leaf's default (`leafDefault`: the validated environment value when the
    variable is set), a rejected one changes nothing; a load applies, first to last, the writes `loadValues` lists — every
    entry up to the first one that raises, entries of leaves bound to a set environment variable skipped, each with its
    decoded (`to_python`) and validated value.  A function of the world and the schema only — no configuration. -/
def absStep (W : World) (s : Schema) (A : Abs) : KeyOp → Abs
  | .assign k v => A.store k (assignStores W s k v)
  | .load tree _ => ⟨A.slot.putAll (loadValues W s tree), A.next⟩
  | .reset k => A.store k (resetStores W s k)

def absRun (W : World) (s : Schema) (A : Abs) (ops : List KeyOp) : Abs := ops.foldl (absStep W s) A

/-- a load writes exactly the keys C12b's machine inserts -/
theorem load_writes_keys (W : World) (s : Schema) (tree : List (Val × Val)) :
    (loadValues W s tree).map (·.1) = loadAssigned W s tree := loadValues_keys W s tree

theorem store_slot_same (A : Abs) (k : String) (v : Val) : (A.store k (some v)).slot k = some (.val v) := Slots.put_same _ _ _

/-- `store` changes its own key, and only when there is something to store; the condition has the shape of `writes`, so that
    `h : writes … = false` rewrites it -/
theorem store_slot (A : Abs) (k k' : String) (o : Option Val) :
    (A.store k o).slot k' = if (k == k' && o.isSome) = true then o.map Slot.val else A.slot k' := by
  cases o with
  | none => simp [Abs.store]
  | some v =>
    by_cases h : k = k'
    · simp [Abs.store, Slots.put, h]
    · simp [Abs.store, Slots.put, h, Ne.symm h]

theorem store_next (A : Abs) (k : String) (o : Option Val) : (A.store k o).next = A.next := by cases o <;> rfl

theorem absStep_congr (W : World) (s : Schema) {A B : Abs} {k : String} (h : A.slot k = B.slot k) (op : KeyOp) :
    (absStep W s A op).slot k = (absStep W s B op).slot k := by
  cases op with
  | load tree dv => exact Slots.putAll_congr _ h
  | _ => simp only [absStep, store_slot, h]

theorem absStep_next (W : World) (s : Schema) (A : Abs) (op : KeyOp) : (absStep W s A op).next = A.next := by
  cases op with
  | load tree dv => rfl
  | _ => exact store_next A _ _

theorem absRun_congr (W : World) (s : Schema) {k : String} : ∀ (ops : List KeyOp) {A B : Abs}, A.slot k = B.slot k →
    (absRun W s A ops).slot k = (absRun W s B ops).slot k :=
  fun _ _ _ h => List.foldl_rel (r := fun A B : Abs => A.slot k = B.slot k) h fun op _ _ _ h => absStep_congr W s h op

theorem absRun_next (W : World) (s : Schema) (ops : List KeyOp) (A : Abs) : (absRun W s A ops).next = A.next :=
  List.foldlRecOn (motive := fun B => B.next = A.next) ops _ rfl fun B h op _ => (absStep_next W s B op).trans h

theorem absRun_append (W : World) (s : Schema) (A : Abs) (l1 l2 : List KeyOp) :
    absRun W s A (l1 ++ l2) = absRun W s (absRun W s A l1) l2 := by simp only [absRun, List.foldl_append]

theorem Abs.ext {A B : Abs} (h1 : A.slot = B.slot) (h2 : A.next = B.next) : A = B := by
  cases A; cases B; simp only at h1 h2; subst h1; subst h2; rfl

/-- the value machine is `C12b.stepCfg` read through `Cfg.get` -/
theorem absOf_stepCfg (W : World) (s : Schema) (c : Cfg) (n : Nat) (op : KeyOp) :
    absOf (stepCfg W s c op, n) = absStep W s (absOf (c, n)) op := by
  cases op with
  | assign k0 v =>
    simp only [stepCfg, absStep]
    cases assignStores W s k0 v with
    | none => rfl
    | some v' => exact Abs.ext (get_setUser_eq_put c k0 _) rfl
  | load tree dv => exact Abs.ext (get_assignAll _ c) rfl
  | reset k0 =>
    simp only [stepCfg, absStep]
    cases resetStores W s k0 with
    | none => rfl
    | some d => exact Abs.ext (get_setDefault_eq_put c k0 _) rfl

/-- **One step commutes with the abstraction** (an equation between abstract states: every key and the identity counter):
    running the model's operation and abstracting is the same as abstracting and running the specification's step —
    whatever the operation: accepted or rejected assignment, load that returns or raises midway, accepted or rejected reset. -/
theorem step_commutes (W : World) (fuel : Nat) (s : Schema) (cn : Cfg × Nat) (op : KeyOp) (hop : OpOk s op) :
    absOf (applyOp W (fuel + 1) s cn op).1 = absStep W s (absOf cn) op := by
  rw [applyOp_state W fuel s cn op hop]
  exact absOf_stepCfg W s cn.1 cn.2 op

theorem run_commutes (W : World) (fuel : Nat) (s : Schema) : ∀ (ops : List KeyOp) (cn : Cfg × Nat),
    (∀ op ∈ ops, OpOk s op) → absOf (runOps W (fuel + 1) s cn ops) = absRun W s (absOf cn) ops :=
  fun _ _ hops => List.foldl_rel (r := fun (cn : Cfg × Nat) (A : Abs) => absOf cn = A) rfl fun op ho cn _ h =>
    h ▸ step_commutes W fuel s cn op (hops op ho)

/-- **Histories, key by key** (any key, declared or not): an abstract state that agrees with the configuration on `k` at the
    start agrees with it on `k` after every history on declared leaf keys — `run_commutes`, and the machine acts key by key
    (`absRun_congr`). -/
theorem value_run_refines (W : World) (fuel : Nat) (s : Schema) (k : String) :
    ∀ (ops : List KeyOp) (cn : Cfg × Nat) (A : Abs), (∀ op ∈ ops, OpOk s op) → cn.1.get k = A.slot k →
      (runOps W (fuel + 1) s cn ops).1.get k = (absRun W s A ops).slot k :=
  fun ops cn _ hops h => (congrArg (fun B : Abs => B.slot k) (run_commutes W fuel s ops cn hops)).trans (absRun_congr W s ops h)

/-- **The values over whole histories**: for every schema, every start state `(c, n)` and every abstract state that agrees
    with it on the declared leaf keys (and on the identity counter), after every history of assignments (accepted or
    rejected), loads (returning or raising) and resets on declared leaf keys, every leaf key holds what the abstract machine
    says — and the identity counter is the abstract one (namely `n`: nothing here draws from it). -/
theorem value_refines (W : World) (fuel : Nat) (s : Schema) (c : Cfg) (n : Nat) (A : Abs) (ops : List KeyOp)
    (hops : ∀ op ∈ ops, OpOk s op) (h : ∀ k, isLeafKey s k = true → c.get k = A.slot k) (hn : A.next = n) :
    (∀ k, isLeafKey s k = true → (runOps W (fuel + 1) s (c, n) ops).1.get k = (absRun W s A ops).slot k) ∧
    (runOps W (fuel + 1) s (c, n) ops).2 = (absRun W s A ops).next ∧ (absRun W s A ops).next = n := by
  have hnext : (runOps W (fuel + 1) s (c, n) ops).2 = n :=
    (congrArg Abs.next (run_commutes W fuel s ops (c, n) hops)).trans (absRun_next W s ops _)
  have hA := (absRun_next W s ops A).trans hn
  exact ⟨fun k hk => value_run_refines W fuel s k ops (c, n) A hops (h k hk), hnext.trans hA.symm, hA⟩

/-- the same for every key on which the two agree at the start, declared or not (an undeclared key is never written) -/
theorem value_refines_all (W : World) (fuel : Nat) (s : Schema) (c : Cfg) (n : Nat) (ops : List KeyOp)
    (hops : ∀ op ∈ ops, OpOk s op) :
    ∀ k, (runOps W (fuel + 1) s (c, n) ops).1.get k = (absRun W s ⟨c.get, n⟩ ops).slot k :=
  fun k => value_run_refines W fuel s k ops (c, n) ⟨c.get, n⟩ hops rfl

/-- **One configuration level behaves like a set and a map**: after any history on declared leaf keys, from any start
    state described by `(D, A)`, the user-defined status of *every* key is the one C12b's set machine computes, every leaf
    key holds what the map machine computes, and the identity counter is untouched. -/
theorem level_refines (W : World) (fuel : Nat) (s : Schema) (c : Cfg) (n : Nat) (D : DSet) (A : Abs) (ops : List KeyOp)
    (hops : ∀ op ∈ ops, OpOk s op) (hD : ∀ k, C12.defined c k = D k)
    (hA : ∀ k, isLeafKey s k = true → c.get k = A.slot k) (hn : A.next = n) :
    (∀ k, C12.defined (runOps W (fuel + 1) s (c, n) ops).1 k = specRun W s D ops k) ∧
    (∀ k, isLeafKey s k = true → (runOps W (fuel + 1) s (c, n) ops).1.get k = (absRun W s A ops).slot k) ∧
    (runOps W (fuel + 1) s (c, n) ops).2 = n := by
  have hv := value_refines W fuel s c n A ops hops hA hn
  exact ⟨defined_refines W fuel s c n D ops hops hD, hv.1, hv.2.1.trans hv.2.2⟩

/-- is it an accepted assignment to / reset of `k`?  (`writes` without the loads) -/
def acceptedOn (W : World) (s : Schema) (k : String) : KeyOp → Bool
  | .assign k0 v => k0 == k && assignAccepts W s k0 v
  | .load _ _ => false
  | .reset k0 => k0 == k && resetAccepts W s k0

def isLoad : KeyOp → Bool
  | .assign _ _ => false
  | .load _ _ => true
  | .reset _ => false

/-- an operation that does not write `k` leaves its slot and its status alone (in both machines) -/
theorem step_frame (W : World) (s : Schema) (k : String) (op : KeyOp) (h : writes W s k op = false) (A : Abs) (D : DSet) :
    (absStep W s A op).slot k = A.slot k ∧ specStep W s D op k = D k := by
  refine ⟨?_, by rw [specStep_apply, h]; cases op <;> rfl⟩
  cases op with
  | assign k0 v => rw [absStep, store_slot, assignStores_isSome, show (k0 == k && assignAccepts W s k0 v) = false from h]; rfl
  | load tree dv => exact Slots.putAll_not_mem _ _ _ (by rw [loadValues_keys]; simpa [writes] using h)
  | reset k0 => rw [absStep, store_slot, resetStores_isSome, show (k0 == k && resetAccepts W s k0) = false from h]; rfl

theorem run_frame (W : World) (s : Schema) (k : String) : ∀ (ops : List KeyOp), (∀ op ∈ ops, writes W s k op = false) →
    ∀ (A : Abs) (D : DSet), (absRun W s A ops).slot k = A.slot k ∧ specRun W s D ops k = D k :=
  fun ops h A D =>
    ⟨List.foldlRecOn (motive := fun B => B.slot k = A.slot k) ops _ rfl fun B hB op ho =>
      (step_frame W s k op (h op ho) B D).1.trans hB,
     List.foldlRecOn (motive := fun E => E k = D k) ops _ rfl fun E hE op ho => (step_frame W s k op (h op ho) A E).2.trans hE⟩

/-- the same in the model: a history none of whose operations writes `k` leaves `get k` and the status of `k` alone -/
theorem model_frame (W : World) (fuel : Nat) (s : Schema) (k : String) (ops : List KeyOp) (hops : ∀ op ∈ ops, OpOk s op)
    (h : ∀ op ∈ ops, writes W s k op = false) (cn : Cfg × Nat) :
    (runOps W (fuel + 1) s cn ops).1.get k = cn.1.get k ∧
    C12.defined (runOps W (fuel + 1) s cn ops).1 k = C12.defined cn.1 k := by
  have hf := run_frame W s k ops h (absOf cn) (C12.defined cn.1)
  exact ⟨(value_run_refines W fuel s k ops cn (absOf cn) hops rfl).trans hf.1,
    (run_refines W fuel s k ops cn (C12.defined cn.1) hops rfl).trans hf.2⟩

/-- **Documents never write a leaf bound to a set variable** — whatever the tree, whatever the `validate` flag. -/
theorem load_never_writes_env_key (W : World) (s : Schema) (k : String) (fs : FieldSpec) (m : LeafMeta)
    (hf : s.get k = some (.leaf fs m)) (text : Str) (henv : envValue W m = some text) (tree : List (Val × Val)) (dv : Bool) :
    writes W s k (.load tree dv) = false := by
  have h := not_mem_loadAssigned_of_env hf (by rw [henv]; rfl) tree
  simpa [writes, List.contains_eq_mem] using h

/-- where loads do not write `k` (a leaf bound to a set variable: `load_never_writes_env_key`), only accepted assignments to
    and resets of `k` do -/
theorem not_writes_of_acceptedOn {W : World} {s : Schema} {k : String} (hl : ∀ tree dv, writes W s k (.load tree dv) = false)
    (op : KeyOp) (h : acceptedOn W s k op = false) : writes W s k op = false := by
  cases op with
  | load tree dv => exact hl tree dv
  | _ => exact h

theorem not_writes_of_isLoad {W : World} {s : Schema} {k : String} (hl : ∀ tree dv, writes W s k (.load tree dv) = false)
    (op : KeyOp) (h : isLoad op = true) : writes W s k op = false := by
  cases op with
  | load tree dv => exact hl tree dv
  | _ => cases h

/-- **A freshly built configuration holds the variable's validated value** under a leaf bound to a set variable, not marked
    user-defined.  `hk` excludes typed lists and dicts, whose `__setdefault__` ignores the environment (finding F10,
    `C14.env_ignored_by_lists`); `hnn`: a text validating to `None` falls back to the declared default
    (`Field.__setdefault__`); `hnd`: with a duplicate key the slot holds the last declaration's default
    (`C12b.Demo.dup_value_differs`). -/
theorem env_wins_fresh (W : World) (path : String) (linked : Bool) (keyfile : Option String) (s : Schema) (n : Nat)
    (c0 : Cfg) (n0 : Nat) (hb : build W path linked keyfile s n = .ok (c0, n0)) (hnd : nodupKeys s.fields = true)
    (k : String) (fs : FieldSpec) (m : LeafMeta) (hf : s.get k = some (.leaf fs m)) (text : Str) (v : Val)
    (hk : usesBaseSetdefault fs.kind = true) (henv : envValue W m = some text)
    (hv : validate W.fe.toEnv fs (.str text) = .ok v) (hnn : v ≠ .none) :
    c0.get k = some (.val v) ∧ C12.defined c0 k = false := by
  refine ⟨?_, (build_all_default W path linked keyfile s n c0 n0 hb k _ hf rfl).1⟩
  rw [build_eq] at hb
  obtain ⟨v', hv', hget⟩ := buildFields_get_leaf hnd hb hf
  rw [leafDefault_env W path k fs m text v hk henv hv hnn] at hv'
  cases hv'
  exact hget

/-- **The variable's value survives every sequence of loads**: start from `Config(schema)`; `k` is a leaf bound to a
    variable set to a text its field accepts (as `v`).  After any history consisting only of loads — any trees over
    declared leaf keys (with or without `k`), any `validate` flags, each returning or raising — `k` still holds `v` and is
    still not user-defined. -/
theorem env_value_survives_loads (W : World) (fuel : Nat) (path : String) (linked : Bool) (keyfile : Option String)
    (s : Schema) (n : Nat) (c0 : Cfg) (n0 : Nat) (hb : build W path linked keyfile s n = .ok (c0, n0))
    (hnd : nodupKeys s.fields = true)
    (k : String) (fs : FieldSpec) (m : LeafMeta) (hf : s.get k = some (.leaf fs m)) (text : Str) (v : Val)
    (hk : usesBaseSetdefault fs.kind = true) (henv : envValue W m = some text)
    (hv : validate W.fe.toEnv fs (.str text) = .ok v) (hnn : v ≠ .none)
    (ops : List KeyOp) (hops : ∀ op ∈ ops, OpOk s op) (hloads : ∀ op ∈ ops, isLoad op = true) :
    (runOps W (fuel + 1) s (c0, n0) ops).1.get k = some (.val v) ∧
    C12.defined (runOps W (fuel + 1) s (c0, n0) ops).1 k = false := by
  have h0 := env_wins_fresh W path linked keyfile s n c0 n0 hb hnd k fs m hf text v hk henv hv hnn
  have hfr := model_frame W fuel s k ops hops
    (fun op ho => not_writes_of_isLoad (load_never_writes_env_key W s k fs m hf text henv) op (hloads op ho)) (c0, n0)
  exact ⟨hfr.1.trans h0.1, hfr.2.trans h0.2⟩

/-- **Last write wins** (any key of the level): after an accepted assignment `k := x` (validated to `x'`), any operations
    that do not write `k` leave `k` holding `x'`, user-defined — from any state, so after any history. -/
theorem last_assignment_wins (W : World) (fuel : Nat) (s : Schema) (cn : Cfg × Nat) (k : String) (fs : FieldSpec) (m : LeafMeta)
    (hf : s.get k = some (.leaf fs m)) (x x' : Val) (hx : validate W.fe.toEnv fs x = .ok x')
    (pre post : List KeyOp) (hpost : ∀ op ∈ post, OpOk s op) (hnw : ∀ op ∈ post, writes W s k op = false) :
    (runOps W (fuel + 1) s cn (pre ++ .assign k x :: post)).1.get k = some (.val x') ∧
    C12.defined (runOps W (fuel + 1) s cn (pre ++ .assign k x :: post)).1 k = true := by
  rw [runOps_append, runOps_cons]
  generalize runOps W (fuel + 1) s cn pre = st
  have hfr := model_frame W fuel s k post hpost hnw (applyOp W (fuel + 1) s st (.assign k x)).1
  rw [hfr.1, hfr.2, applyOp_assign W fuel s st k x hf, hx]
  exact ⟨Cfg.get_setUser_same _ _ _, by simp [defined_setUser]⟩

/-- **An assignment beats the variable, whatever is loaded before or after**: `k` is a leaf bound to a set variable.  After
    any history (no hypothesis on what precedes) whose last accepted assignment-or-reset on `k` is `k := x` — followed by
    any loads, any operations on other keys and any rejected assignments / resets of `k` — `k` holds the validated `x`
    and is user-defined. -/
theorem assignment_beats_env (W : World) (fuel : Nat) (s : Schema) (cn : Cfg × Nat) (k : String) (fs : FieldSpec) (m : LeafMeta)
    (hf : s.get k = some (.leaf fs m)) (text : Str) (henv : envValue W m = some text)
    (x x' : Val) (hx : validate W.fe.toEnv fs x = .ok x')
    (pre post : List KeyOp) (hpost : ∀ op ∈ post, OpOk s op) (hlast : ∀ op ∈ post, acceptedOn W s k op = false) :
    (runOps W (fuel + 1) s cn (pre ++ .assign k x :: post)).1.get k = some (.val x') ∧
    C12.defined (runOps W (fuel + 1) s cn (pre ++ .assign k x :: post)).1 k = true :=
  last_assignment_wins W fuel s cn k fs m hf x x' hx pre post hpost
    (fun op ho => not_writes_of_acceptedOn (load_never_writes_env_key W s k fs m hf text henv) op (hlast op ho))

/-- **A reset returns to the variable**: after any history whatever (no hypothesis on it), `reset k` of a leaf bound to a
    variable set to an accepted text is accepted, and `k` holds the variable's validated value again, not user-defined —
    and keeps it through any loads that follow. -/
theorem reset_returns_to_env (W : World) (fuel : Nat) (s : Schema) (cn : Cfg × Nat) (k : String) (fs : FieldSpec) (m : LeafMeta)
    (hf : s.get k = some (.leaf fs m)) (hdot : '.' ∉ k.toList) (text : Str) (v : Val)
    (hk : usesBaseSetdefault fs.kind = true) (henv : envValue W m = some text)
    (hv : validate W.fe.toEnv fs (.str text) = .ok v) (hnn : v ≠ .none)
    (pre loads : List KeyOp) (hops : ∀ op ∈ loads, OpOk s op) (hloads : ∀ op ∈ loads, isLoad op = true) :
    (applyOp W (fuel + 1) s (runOps W (fuel + 1) s cn pre) (.reset k)).2 = false ∧
    (runOps W (fuel + 1) s cn (pre ++ .reset k :: loads)).1.get k = some (.val v) ∧
    C12.defined (runOps W (fuel + 1) s cn (pre ++ .reset k :: loads)).1 k = false := by
  rw [runOps_append, runOps_cons]
  generalize runOps W (fuel + 1) s cn pre = st
  have hfr := model_frame W fuel s k loads hops
    (fun op ho => not_writes_of_isLoad (load_never_writes_env_key W s k fs m hf text henv) op (hloads op ho)) (applyOp W (fuel + 1) s st (.reset k)).1
  rw [hfr.1, hfr.2, applyOp_reset W fuel s st k hdot hf, leafDefault_env W "" k fs m text v hk henv hv hnn]
  exact ⟨rfl, Cfg.get_setDefault_same _ _ _, by simp [defined_setDefault]⟩

/-- **Without a (set) variable the document's value is taken**: `k` is a leaf whose variable is unset, empty or opted out
    (`envValue W m = none`, see `C14.envValue_none_iff`).  After any history, a load that returns normally and whose tree
    has the entry `(k, value)` (`huniq`: the tree is a mapping — no second entry with another value under the same key)
    leaves `k` holding `value` decoded by `to_python` and validated, user-defined. -/
theorem no_binding_loads_apply (W : World) (fuel : Nat) (s : Schema) (cn : Cfg × Nat) (pre : List KeyOp)
    (tree : List (Val × Val)) (dv : Bool) (hop : OpOk s (.load tree dv))
    (ks : List Char) (value : Val) (fs : FieldSpec) (m : LeafMeta) (hm : (Val.str ks, value) ∈ tree)
    (hf : s.get (String.ofList ks) = some (.leaf fs m)) (henv : envValue W m = none)
    (huniq : ∀ value', (Val.str ks, value') ∈ tree → value' = value)
    (hok : (applyOp W (fuel + 1) s (runOps W (fuel + 1) s cn pre) (.load tree dv)).2 = false) :
    ∃ u v, toPython W.fe fs value = .ok u ∧ validate W.fe.toEnv fs u = .ok v ∧
      (runOps W (fuel + 1) s cn (pre ++ [.load tree dv])).1.get (String.ofList ks) = some (.val v) ∧
      C12.defined (runOps W (fuel + 1) s cn (pre ++ [.load tree dv])).1 (String.ofList ks) = true := by
  rw [runOps_append]
  generalize runOps W (fuel + 1) s cn pre = st at hok ⊢
  have hin := load_ok_mem W fuel s st tree dv hop hok ks value fs m hm hf henv
  obtain ⟨u, v, hp, hv, hput⟩ := putAll_loadValues_unique hf huniq (by rw [loadValues_keys]; exact hin) st.1.get
  refine ⟨u, v, hp, hv, ?_, ?_⟩
  · simp only [runOps, List.foldl_cons, List.foldl_nil, applyOp]
    rw [(loadTree_values W fuel s dv tree st.1 st.2 hop).1]
    exact hput
  · simpa only [runOps, List.foldl_cons, List.foldl_nil] using
      (load_ok_defines W fuel s st tree dv hop hok ks value fs m hm hf henv).1

/-- two schemas declare the same leaves up to bindings that are not in force: the same keys are leaves, with the same field
    and the same declared default, and every leaf's variable reads the same in this world (in particular: one bound to an
    unset / empty variable or opted out, the other not bound at all) -/
def EnvEquiv (W : World) (s s' : Schema) : Prop :=
  ∀ k, (leafOf (s.get k) = none ∧ leafOf (s'.get k) = none) ∨
    ∃ fs m m', leafOf (s.get k) = some (fs, m) ∧ leafOf (s'.get k) = some (fs, m') ∧
      m.default.value = m'.default.value ∧ envValue W m = envValue W m'

theorem leafDefault_congr (W : World) (path k : String) (fs : FieldSpec) (m m' : LeafMeta)
    (hd : m.default.value = m'.default.value) (he : envValue W m = envValue W m') :
    leafDefault W path k fs m = leafDefault W path k fs m' := by
  unfold leafDefault
  rw [hd, he]

theorem entryValue_congr (W : World) (s s' : Schema) (h : EnvEquiv W s s') (key value : Val) :
    entryValue W s key value = entryValue W s' key value := by
  unfold entryValue
  cases hk : keyString key with
  | none => rfl
  | some k =>
    rcases h k with ⟨h1, h2⟩ | ⟨fs, m, m', h1, h2, _, he⟩
    · simp only [h1, h2]
    · simp only [h1, h2, leafEntry, he]

theorem loadValues_congr (W : World) (s s' : Schema) (h : EnvEquiv W s s') (tree : List (Val × Val)) :
    loadValues W s tree = loadValues W s' tree := by
  induction tree with
  | nil => rfl
  | cons e rest ih => simp only [loadValues, entryValue_congr W s s' h e.1 e.2, ih]

/-- the abstract machine cannot tell two schemas apart that differ only in bindings not in force -/
theorem absStep_envEquiv (W : World) (s s' : Schema) (h : EnvEquiv W s s') (A : Abs) (op : KeyOp) :
    absStep W s A op = absStep W s' A op := by
  cases op with
  | assign k v =>
    simp only [absStep, assignStores]
    rcases h k with ⟨h1, h2⟩ | ⟨fs, m, m', h1, h2, _, _⟩ <;> simp only [h1, h2]
  | load tree dv => simp only [absStep, loadValues_congr W s s' h tree]
  | reset k =>
    simp only [absStep, resetStores]
    rcases h k with ⟨h1, h2⟩ | ⟨fs, m, m', h1, h2, hd, he⟩
    · simp only [h1, h2]
    · simp only [h1, h2, defaultOf, leafDefault_congr W "" k fs m m' hd he]

theorem absRun_envEquiv (W : World) (s s' : Schema) (h : EnvEquiv W s s') (ops : List KeyOp) (A : Abs) :
    absRun W s A ops = absRun W s' A ops := by
  rw [absRun, funext fun A => funext (absStep_envEquiv W s s' h A)]; rfl

/-- **Unset, empty and opted-out variables behave as if no binding existed — over whole histories**: run the same history
    on configurations of two schemas that differ only in bindings that are not in force (`EnvEquiv`), from start states
    that agree on key `k`: they agree on `k` afterwards (value; and the identity counters if they agreed). -/
theorem unbound_equivalent (W : World) (fuel : Nat) (s s' : Schema) (h : EnvEquiv W s s') (ops : List KeyOp)
    (hops : ∀ op ∈ ops, OpOk s op) (hops' : ∀ op ∈ ops, OpOk s' op) (cn cn' : Cfg × Nat) (k : String)
    (hk : cn.1.get k = cn'.1.get k) :
    (runOps W (fuel + 1) s cn ops).1.get k = (runOps W (fuel + 1) s' cn' ops).1.get k := by
  rw [value_run_refines W fuel s k ops cn (absOf cn) hops rfl,
    value_run_refines W fuel s' k ops cn' (absOf cn) hops' hk.symm, absRun_envEquiv W s s' h]

/-! Non-vacuity: a concrete world, schema and history.

The variable `APP_PORT` is set to `8080`; `port` is an integer leaf bound to it (declared default 1), `debug` a plain boolean
leaf.  The history loads `{port: 9, debug: true}` (the `port` entry is skipped), assigns a list to `port` (rejected), loads
`{port: 10}` (skipped again), assigns `port := 5` (accepted), loads `{port: 11}` (skipped: the assignment stays) and resets
`port` (back to 8080).  Everything is evaluated in the model — each step by the model's equation for that operation on a leaf key
(`build_eq`, `applyOp_assign`, `applyOp_reset`, `loadTree_cons_leaf`, `loadTree_nil`), then `rfl` — and in the abstract machine. -/

section Demo

def demoW : World := { cexWorld with environ := fun n => if n = "APP_PORT" then some "8080" else none }

def portSpec : FieldSpec := .mk (.int none none) false none
def portMeta : LeafMeta := { default := .const (.int 1), env := some "APP_PORT" }
def debugSpec : FieldSpec := .mk .bool false none

def demoSchema : Schema := .mk [("port", .leaf portSpec portMeta), ("debug", .leaf debugSpec {})] false []

theorem demo_nodup : nodupKeys demoSchema.fields = true := by decide

theorem get_port : demoSchema.get "port" = some (.leaf portSpec portMeta) := by
  simp [demoSchema, Schema.get, Schema.fields, lookupField]
theorem get_debug : demoSchema.get "debug" = some (.leaf debugSpec {}) := by
  simp [demoSchema, Schema.get, Schema.fields, lookupField]

/-- the variable of `port` is set -/
theorem demo_env : envValue demoW portMeta = some "8080".toList := by decide +kernel
/-- its text is one the field accepts, as a value other than `None` -/
theorem demo_validates : validate demoW.fe.toEnv portSpec (.str "8080".toList) = .ok (.int 8080) := by rfl
theorem demo_base : usesBaseSetdefault portSpec.kind = true := by decide

def demoHistory : List KeyOp :=
  [.load [(.str "port".toList, .int 9), (.str "debug".toList, .bool true)] false,
   .assign "port" (.list []),
   .load [(.str "port".toList, .int 10)] true,
   .assign "port" (.int 5),
   .load [(.str "port".toList, .int 11)] false,
   .reset "port"]

theorem demoHistory_ok : ∀ op ∈ demoHistory, OpOk demoSchema op := OpOk.of_check (by decide +kernel)

theorem demoHistory_at (i : Nat) (h : i < demoHistory.length) : OpOk demoSchema demoHistory[i] :=
  demoHistory_ok _ (List.getElem_mem h)

def d0 : Cfg := Cfg.mk 0 [("port", .val (.int 8080)), ("debug", .val .none)] ["port", "debug"] [] none false

/-- `Config(schema)`: `port` starts at the variable's value, not user-defined -/
theorem demo_fresh : build demoW "" false none demoSchema 0 = .ok (d0, 1) := by
  rw [build_eq]
  simp only [demoSchema, Schema.fields, buildFields, setDefault_leaf,
    leafDefault_env demoW "" "port" portSpec portMeta _ _ demo_base demo_env demo_validates nofun]
  rfl

/-- the abstract machine on the whole history, from the fresh state: `port` ends at the variable's value, `debug` at the
    loaded `true`; the one in the middle (before the reset) shows the assignment in force -/
theorem demo_abs :
    (absRun demoW demoSchema (absOf (d0, 1)) demoHistory).slot "port" = some (.val (.int 8080)) ∧
    (absRun demoW demoSchema (absOf (d0, 1)) demoHistory).slot "debug" = some (.val (.bool true)) ∧
    (absRun demoW demoSchema (absOf (d0, 1)) (demoHistory.take 5)).slot "port" = some (.val (.int 5)) ∧
    (absRun demoW demoSchema (absOf (d0, 1)) (demoHistory.take 3)).slot "port" = some (.val (.int 8080)) := by
  refine ⟨?_, ?_, ?_, ?_⟩ <;> rfl

/-- which operations the specification accepts: the list assignment is rejected, `port := 5` and the reset accepted; the
    first load writes `debug` only -/
theorem demo_accepts :
    assignAccepts demoW demoSchema "port" (.list []) = false ∧ assignAccepts demoW demoSchema "port" (.int 5) = true ∧
    resetAccepts demoW demoSchema "port" = true ∧
    loadAssigned demoW demoSchema [(.str "port".toList, .int 9), (.str "debug".toList, .bool true)] = ["debug"] := by
  decide +kernel

/-- `value_refines` / `level_refines` instantiated: the model, run on the whole history from the fresh configuration, holds
    what the abstract machine computed above, and `port` is not user-defined while `debug` is -/
theorem demo_model :
    (runOps demoW 1 demoSchema (d0, 1) demoHistory).1.get "port" = some (.val (.int 8080)) ∧
    (runOps demoW 1 demoSchema (d0, 1) demoHistory).1.get "debug" = some (.val (.bool true)) ∧
    (runOps demoW 1 demoSchema (d0, 1) demoHistory).2 = 1 ∧
    C12.defined (runOps demoW 1 demoSchema (d0, 1) demoHistory).1 "port" = false ∧
    C12.defined (runOps demoW 1 demoSchema (d0, 1) demoHistory).1 "debug" = true := by
  have h := level_refines demoW 0 demoSchema d0 1 (C12.defined d0) (absOf (d0, 1)) demoHistory demoHistory_ok
    (fun _ => rfl) (fun _ _ => rfl) rfl
  refine ⟨?_, ?_, h.2.2, ?_, ?_⟩
  · rw [h.2.1 "port" (by decide +kernel)]; exact demo_abs.1
  · rw [h.2.1 "debug" (by decide +kernel)]; exact demo_abs.2.1
  · rw [h.1 "port"]; decide +kernel
  · rw [h.1 "debug"]; decide +kernel

/-- `env_value_survives_loads` instantiated (its hypotheses are satisfiable): two loads naming `port` -/
example : (runOps demoW 1 demoSchema (d0, 1) [demoHistory[0], demoHistory[2]]).1.get "port" = some (.val (.int 8080)) ∧
    C12.defined (runOps demoW 1 demoSchema (d0, 1) [demoHistory[0], demoHistory[2]]).1 "port" = false :=
  env_value_survives_loads demoW 0 "" false none demoSchema 0 d0 1 demo_fresh demo_nodup "port" portSpec portMeta get_port
    _ _ demo_base demo_env demo_validates nofun _ (by simp [demoHistory_at]) (by decide)

/-- `assignment_beats_env` instantiated: `pre` = the first three operations, then `port := 5`, then a load naming `port` -/
example : (runOps demoW 1 demoSchema (d0, 1) (demoHistory.take 3 ++ .assign "port" (.int 5) :: [demoHistory[4]])).1.get "port"
      = some (.val (.int 5)) ∧
    C12.defined (runOps demoW 1 demoSchema (d0, 1) (demoHistory.take 3 ++ .assign "port" (.int 5) :: [demoHistory[4]])).1 "port" = true :=
  assignment_beats_env demoW 0 demoSchema (d0, 1) "port" portSpec portMeta get_port _ demo_env (.int 5) (.int 5) rfl _ _
    (by simp [demoHistory_at]) (by decide)

/-- `reset_returns_to_env` instantiated: after the first five operations, reset, then one more load naming `port` -/
example : (applyOp demoW 1 demoSchema (runOps demoW 1 demoSchema (d0, 1) (demoHistory.take 5)) (.reset "port")).2 = false ∧
    (runOps demoW 1 demoSchema (d0, 1) (demoHistory.take 5 ++ .reset "port" :: [demoHistory[2]])).1.get "port" = some (.val (.int 8080)) ∧
    C12.defined (runOps demoW 1 demoSchema (d0, 1) (demoHistory.take 5 ++ .reset "port" :: [demoHistory[2]])).1 "port" = false :=
  reset_returns_to_env demoW 0 demoSchema (d0, 1) "port" portSpec portMeta get_port (by decide) _ _ demo_base demo_env
    demo_validates nofun _ _ (by simp [demoHistory_at]) (by decide)

/-- the state after the first load (and after the next two operations, which change nothing) -/
def d1 : Cfg := Cfg.mk 0 [("port", .val (.int 8080)), ("debug", .val (.bool true))] ["port"] [] none false

/-- an entry naming `port` is skipped by every load (`C14.env_beats_load`: the variable is set) -/
theorem demo_skip (c : Cfg) (value : Val) (rest : List (Val × Val)) (dv : Bool) (n : Nat) :
    loadTree demoW 1 demoSchema "" c ((.str "port".toList, value) :: rest) dv n = loadTree demoW 1 demoSchema "" c rest dv n :=
  C14.env_beats_load demoW 1 demoSchema "" c _ value rest dv n portSpec portMeta (String.ofList_toList ▸ get_port) _ demo_env

/-- the first load, evaluated in the model: it returns normally, `port` is skipped, `debug` is written -/
theorem demo_step1 : applyOp demoW 1 demoSchema (d0, 1)
    (.load [(.str "port".toList, .int 9), (.str "debug".toList, .bool true)] false) = ((d1, 1), false) := by
  have hd : demoSchema.get (String.ofList "debug".toList) = some (.leaf debugSpec {}) := String.ofList_toList ▸ get_debug
  simp only [applyOp, demo_skip, loadTree_cons_leaf demoW 0 demoSchema "" _ _ _ _ _ _ hd, loadTree_nil]
  rfl

/-- the states after `port := 5` (and the load that follows) and after the reset -/
def d4 : Cfg := Cfg.mk 0 [("port", .val (.int 5)), ("debug", .val (.bool true))] [] [] none false
def d6 : Cfg := Cfg.mk 0 [("port", .val (.int 8080)), ("debug", .val (.bool true))] ["port"] [] none false

/-- rejected assignment (a list is no integer): nothing moves, the flag is raised -/
theorem demo_step2 : applyOp demoW 1 demoSchema (d1, 1) (.assign "port" (.list [])) = ((d1, 1), true) := by
  rw [applyOp_assign demoW 0 _ _ _ _ get_port]
  rfl

/-- a validating load naming `port`: skipped, the final validation passes -/
theorem demo_step3 : applyOp demoW 1 demoSchema (d1, 1) (.load [(.str "port".toList, .int 10)] true) = ((d1, 1), false) := by
  -- the final validation: both fields hold values their own validation accepts, there is no flag field and no validator
  have hval : validateCfg demoW 2 demoSchema "" d1 = none := by
    have hF : demoSchema.fields = [("port", .leaf portSpec portMeta), ("debug", .leaf debugSpec {})] := rfl
    have hV : demoSchema.validators = [] := rfl
    have hen : featureEnabled demoSchema d1 = true := rfl
    have hp : d1.get "port" = some (.val (.int 8080)) := rfl
    have hd : d1.get "debug" = some (.val (.bool true)) := rfl
    have vp : validate demoW.fe.toEnv portSpec (.int 8080) = .ok (.int 8080) := rfl
    have vd : validate demoW.fe.toEnv debugSpec (.bool true) = .ok (.bool true) := rfl
    rw [validateCfg]
    simp only [hen, Bool.not_true, Bool.false_eq_true, if_false, hF, hV, validateFields, fieldProblem, hp, hd, vp, vd,
      List.all_nil, if_true]
  simp only [applyOp, demo_skip, loadTree_nil, hval]
  rfl

/-- accepted assignment: `port` holds 5 and is user-defined -/
theorem demo_step4 : applyOp demoW 1 demoSchema (d1, 1) (.assign "port" (.int 5)) = ((d4, 1), false) := by
  rw [applyOp_assign demoW 0 _ _ _ _ get_port]
  rfl

/-- another load naming `port`: skipped, the assignment stays -/
theorem demo_step5 : applyOp demoW 1 demoSchema (d4, 1) (.load [(.str "port".toList, .int 11)] false) = ((d4, 1), false) := by
  simp only [applyOp, demo_skip, loadTree_nil]
  rfl

/-- reset: `port` is back at the variable's value and not user-defined -/
theorem demo_step6 : applyOp demoW 1 demoSchema (d4, 1) (.reset "port") = ((d6, 1), false) := by
  rw [applyOp_reset demoW 0 _ _ _ (by decide) get_port,
    leafDefault_env demoW "" "port" portSpec portMeta _ _ demo_base demo_env demo_validates (by intro h; cases h)]
  rfl

/-- the model on the whole history, computed without any of the refinement theorems above: final state, identity counter and which
    operations raised (only the list assignment) — the same values as `demo_abs` / `demo_model` -/
theorem demo_run : runOps demoW 1 demoSchema (d0, 1) demoHistory = (d6, 1) ∧
    raisedFlags demoW 1 demoSchema (d0, 1) demoHistory = [false, true, false, false, false, false] := by
  simp only [runOps, raisedFlags, demoHistory, List.foldl_cons, List.foldl_nil, demo_step1, demo_step2, demo_step3, demo_step4,
    demo_step5, demo_step6, and_self]

example : d6.get "port" = some (.val (.int 8080)) ∧ d6.get "debug" = some (.val (.bool true)) ∧
    C12.defined d6 "port" = false ∧ C12.defined d6 "debug" = true ∧
    d4.get "port" = some (.val (.int 5)) ∧ C12.defined d4 "port" = true :=
  ⟨by simp [d6, Cfg.get, Cfg.slots, getSlot], by simp [d6, Cfg.get, Cfg.slots, getSlot], by decide, by decide,
   by simp [d4, Cfg.get, Cfg.slots, getSlot], by decide⟩

/-- `no_binding_loads_apply` instantiated on `debug` (no binding): the loaded value is taken -/
example : ∃ u v, toPython demoW.fe debugSpec (.bool true) = .ok u ∧ validate demoW.fe.toEnv debugSpec u = .ok v ∧
    (runOps demoW 1 demoSchema (d0, 1) ([] ++ [demoHistory[0]])).1.get (String.ofList "debug".toList) = some (.val v) ∧
    C12.defined (runOps demoW 1 demoSchema (d0, 1) ([] ++ [demoHistory[0]])).1 (String.ofList "debug".toList) = true :=
  no_binding_loads_apply demoW 0 demoSchema (d0, 1) [] _ false (demoHistory_at 0 (by decide))
    "debug".toList (.bool true) debugSpec {} (.tail _ (.head _)) (String.ofList_toList ▸ get_debug) rfl
    (fun value' hm => by
      simp only [List.mem_cons, List.mem_nil_iff, or_false, Prod.mk.injEq, Val.str.injEq] at hm
      rcases hm with hm | hm
      · exact absurd hm.1 (by decide +kernel)
      · exact hm.2)
    (congrArg Prod.snd demo_step1)

/-- `unbound_equivalent` is not vacuous either: the world where `APP_PORT` is unset cannot tell `demoSchema` from the same
    schema without the binding -/
def plainSchema : Schema :=
  .mk [("port", .leaf portSpec { default := .const (.int 1) }), ("debug", .leaf debugSpec {})] false []

theorem demo_envEquiv : EnvEquiv cexWorld demoSchema plainSchema := by
  intro k
  by_cases h1 : k = "port"
  · subst h1
    exact Or.inr ⟨portSpec, portMeta, { default := .const (.int 1) }, by simp [get_port, leafOf],
      by simp [plainSchema, Schema.get, Schema.fields, lookupField, leafOf], rfl, by decide⟩
  · by_cases h2 : k = "debug"
    · subst h2
      exact Or.inr ⟨debugSpec, {}, {}, by simp [get_debug, leafOf],
        by simp [plainSchema, Schema.get, Schema.fields, lookupField, leafOf], rfl, rfl⟩
    · have hne1 : ("port" = k) = False := by simp [Ne.symm h1]
      have hne2 : ("debug" = k) = False := by simp [Ne.symm h2]
      exact Or.inl ⟨by simp [demoSchema, Schema.get, Schema.fields, lookupField, hne1, hne2, leafOf],
        by simp [plainSchema, Schema.get, Schema.fields, lookupField, hne1, hne2, leafOf]⟩

end Demo

/-! F59 — the world that decides is the one at the time of the LOAD.

  Every theorem above speaks of one world `W`: the environment does not change while a configuration lives.  C14's sentence is
  about the variable "when the configuration is built".  The model follows the code, which looks at the process environment again
  at every load (`decodeEntry` consults `envValue W m` with the world of the load), so with two worlds the property's reading fails
  on the model exactly as on /repo (recorded finding F59, replays `notes/replays-found/F59-*.json`): -/

/-- built while the variable is set, loaded after it was removed: the document's entry is **assigned** (the field the variable
    shielded at construction is overridden); built while it is unset, loaded after it was set: the entry is **skipped** (a field
    without a binding does not receive the document's value) -/
theorem env_consulted_at_load :
    entryEffect C12b.Demo.envW C12b.Demo.envSchema (.str ['b']) (.bool false) = .skip ∧
    entryEffect cexWorld C12b.Demo.envSchema (.str ['b']) (.bool false) = .assign "b" := by decide

/-- what does hold for two worlds (the `_partial` form of "documents never override"): a load skips the key exactly when the
    variable is set in the world of THAT load, whatever the world of construction was -/
theorem env_beats_load_partial (Wbuild Wload : World) (fuel : Nat) (s : Schema) (path : String) (c : Cfg) (k : Str) (value : Val)
    (rest : List (Val × Val)) (doValidate : Bool) (n : Nat) (fs : FieldSpec) (m : LeafMeta)
    (hf : s.get (String.ofList k) = some (.leaf fs m)) (x : Str) (henv : envValue Wload m = some x) :
    loadTree Wload fuel s path c ((.str k, value) :: rest) doValidate n = loadTree Wload fuel s path c rest doValidate n :=
  let _ := Wbuild
  C14.env_beats_load Wload fuel s path c k value rest doValidate n fs m hf x henv

/-- **A set variable gives the field what assigning the same text gives** (the oracle of the C14 stream
    `leaf_fields_and_blank_variables`): `k` is a leaf of a duplicate-free schema bound to a variable set to `text`, which its field
    accepts as `v ≠ None`.  The configuration built in that world holds `v` under `k` — and so does ANY configuration of the
    schema, in any world with the same file system (the variable set or not), reached by any history, after `k := text` is
    assigned.  What differs is only the status: the built value counts as a default, the assigned one as user-defined.
    (`hnn`: a text that validates to `None` falls back to the declared default at construction — `Field.__setdefault__` — while an
    assignment stores the `None`; the stream's blank-variable cases sit exactly on that edge and are compared on the real code.) -/
theorem env_equals_assignment (W W' : World) (hfe : W'.fe = W.fe) (fuel : Nat) (path : String) (linked : Bool) (keyfile : Option String)
    (s : Schema) (n : Nat) (c0 : Cfg) (n0 : Nat) (hb : build W path linked keyfile s n = .ok (c0, n0)) (hnd : nodupKeys s.fields = true)
    (k : String) (fs : FieldSpec) (m : LeafMeta) (hf : s.get k = some (.leaf fs m)) (text : Str) (v : Val)
    (hk : usesBaseSetdefault fs.kind = true) (henv : envValue W m = some text)
    (hv : validate W.fe.toEnv fs (.str text) = .ok v) (hnn : v ≠ .none) (cn : Cfg × Nat) (pre : List KeyOp) :
    c0.get k = (runOps W' (fuel + 1) s cn (pre ++ [.assign k (.str text)])).1.get k ∧
    C12.defined c0 k = false ∧ C12.defined (runOps W' (fuel + 1) s cn (pre ++ [.assign k (.str text)])).1 k = true := by
  have h0 := env_wins_fresh W path linked keyfile s n c0 n0 hb hnd k fs m hf text v hk henv hv hnn
  have hv' : validate W'.fe.toEnv fs (.str text) = .ok v := by rw [hfe]; exact hv
  have h1 := last_assignment_wins W' fuel s cn k fs m hf (.str text) v hv' pre [] (by simp) (by simp)
  exact ⟨h0.1.trans h1.1.symm, h0.2, h1.2⟩

/-- non-vacuity: the demonstration schema's `port`, bound to a variable set to `8080` — every hypothesis is met -/
example : d0.get "port" =
    (runOps demoW 2 demoSchema (d0, 1) ([] ++ [.assign "port" (.str "8080".toList)])).1.get "port" :=
  (env_equals_assignment demoW demoW rfl 1 "" false none demoSchema 0 d0 1 demo_fresh demo_nodup "port"
    portSpec portMeta get_port "8080".toList (.int 8080) demo_base demo_env demo_validates (by simp) (d0, 1) []).1

end Cinco.C14b
