import Cinco.Props.C08
import Cinco.Proofs.AesInverse
/-
  C08 (continuation) — the block-cipher hypothesis discharged for the executable AES-256 of the model.
  `Cinco/Crypto/Aes256.lean` is the FIPS-197 cipher the driver runs against every ciphertext the library produces; here it is
  proved to be a lawful block cipher for every key, so the CBC and SecureField round trips of C08 hold for it outright.
-/
namespace Cinco.C08b
open Cinco Cinco.Crypto

/-- **AES-256 decryption inverts encryption**, for every key (of any length: the key schedule pads / cuts to 32 bytes) and every
    16-byte block: InvSubBytes∘SubBytes by exhaustive check of the S-box table, InvShiftRows∘ShiftRows as a permutation,
    AddRoundKey as XOR involution, InvMixColumns∘MixColumns from the XOR-linearity of `xtime` — two enumerations of 256 cases
    (the S-box table, the top bit of a byte) and nothing larger. -/
theorem aes_block_inverse (key block : List UInt8) (hb : block.length = 16) :
    Aes.decryptBlock key (Aes.encryptBlock key block) = block :=
  Aes.decryptBlockWith_encryptBlockWith _ (Aes.keyExpansion_mem_length key) block hb

theorem aes_block_length (key block : List UInt8) : (Aes.encryptBlock key block).length = 16 :=
  Aes.encryptBlockWith_length _ (Aes.keyExpansion_mem_length key) block

/-- the executable AES is a lawful block cipher: the hypothesis `BlockCipher.Lawful` of `C08.cbc_roundtrip`, `aes_layout`,
    `secure_roundtrip` is a theorem for it -/
theorem aes_lawful : aesCipher.Lawful where
  -- `aesCipher` is unfolded first: asked to see through it on its own, the unifier starts evaluating the cipher and times out
  dec_enc := by simp only [aesCipher]; exact aes_block_inverse
  enc_len := by simp only [aesCipher]; exact fun k b _ => aes_block_length k b

/-- **CBC round trip for the real cipher**, no hypothesis on the block function left -/
theorem aes_cbc_roundtrip (k iv p : Bytes) (hiv : iv.length = 16) :
    aesDecrypt aesCipher k (aesEncrypt aesCipher k iv p) = .ok p :=
  C08.cbc_roundtrip aesCipher aes_lawful k iv p hiv

end Cinco.C08b
