import Cinco.Proofs.Stub
import Cinco.Generated.StubEffects
/-
  C20 — generated type stubs declare every field and method.
  Theorems are about the declaration tree `generate` and the text `Stub.lines`; that the text is accepted
  by Python's grammar is decided per sample by CPython's own parser in the correspondence check
  (harness/props/c20.py), which also compares the parsed tree with the model's.
-/
namespace Cinco.C20
open Cinco Cinco.Stub

/-- an `InstanceMethodField`: declared as a method of the stub class, not as an attribute -/
def isMeth : SF → Bool
  | .meth _ => true
  | _ => false
/-- a persistent field (not virtual, not a method): an attribute that is also a constructor parameter -/
def isAttr : SF → Bool
  | .attr _ => true
  | _ => false
/-- the storage type whose type string annotates the attribute; a method has none -/
def tyOf : SF → Option Ty
  | .attr t => some t
  | .virt t => some t
  | .meth _ => none

/-- **Every field that is not a method is an annotated attribute**, in schema order (virtual ones included). -/
theorem attrs_complete (cls : String) (fs : Fields) :
    (generate cls fs).attrs.map Prod.fst = (fs.filter (fun f => !isMeth f.2)).map Prod.fst := by
  induction fs with
  | nil => rfl
  | cons f r ih =>
    obtain ⟨k, sf⟩ := f
    cases sf with
    | attr t | virt t => exact congrArg (k :: ·) ih
    | meth m => exact ih

/-- each declared attribute carries the type string of its field -/
theorem attr_type (cls : String) (fs : Fields) (k : String) (sf : SF) (t : Ty)
    (hm : (k, sf) ∈ fs) (ht : tyOf sf = some t) : (k, typestr t) ∈ (generate cls fs).attrs := by
  induction fs with
  | nil => cases hm
  | cons f r ih =>
    obtain ⟨k', sf'⟩ := f
    rcases List.mem_cons.1 hm with h | h
    · cases h
      cases sf with
      | attr t' | virt t' => cases ht; exact List.mem_cons_self
      | meth m => cases ht
    · cases sf' with
      | attr _ | virt _ => exact List.mem_cons_of_mem _ (ih h)
      | meth _ => exact ih h

/-- **The constructor takes exactly the persistent fields**, in schema order. -/
theorem init_exact (cls : String) (fs : Fields) :
    (generate cls fs).init.map Prod.fst = (fs.filter (fun f => isAttr f.2)).map Prod.fst := by
  induction fs with
  | nil => rfl
  | cons f r ih =>
    obtain ⟨k, sf⟩ := f
    cases sf with
    | attr t => exact congrArg (k :: ·) ih
    | virt t | meth m => exact ih

/-- a name is a constructor parameter iff it is a persistent field (field names are unique in a schema) -/
theorem init_iff (cls : String) (fs : Fields) (k : String) :
    k ∈ (generate cls fs).init.map Prod.fst ↔ ∃ t, (k, SF.attr t) ∈ fs := by
  rw [init_exact]
  simp only [List.mem_map, List.mem_filter]
  constructor
  · rintro ⟨⟨k', sf⟩, ⟨hm, ha⟩, rfl⟩
    cases sf <;> simp [isAttr] at ha
    exact ⟨_, hm⟩
  · rintro ⟨t, hm⟩
    exact ⟨(k, .attr t), ⟨hm, rfl⟩, rfl⟩

/-- constructor parameters are a sub-list of the attributes with the same annotations -/
theorem init_sublist (cls : String) (fs : Fields) :
    List.Sublist (generate cls fs).init (generate cls fs).attrs := by
  induction fs with
  | nil => exact .slnil
  | cons f r ih =>
    obtain ⟨k, sf⟩ := f
    cases sf with
    | attr t => exact .cons_cons _ ih
    | virt t => exact .cons _ ih
    | meth m => exact ih

/-- **One method per instance-method field**, in schema order. -/
theorem methods_exact (cls : String) (fs : Fields) :
    (generate cls fs).methods.map MethodDecl.name = (fs.filter (fun f => isMeth f.2)).map Prod.fst := by
  induction fs with
  | nil => rfl
  | cons f r ih =>
    obtain ⟨k, sf⟩ := f
    cases sf with
    | attr t | virt t => exact ih
    | meth m => exact congrArg (k :: ·) ih

theorem method_decl (cls : String) (fs : Fields) (k : String) (m : Method) (hm : (k, SF.meth m) ∈ fs) :
    (⟨k, items m, retStr m⟩ : MethodDecl) ∈ (generate cls fs).methods := by
  induction fs with
  | nil => cases hm
  | cons f r ih =>
    obtain ⟨k', sf'⟩ := f
    rcases List.mem_cons.1 hm with h | h
    · cases h; exact List.mem_cons_self
    · cases sf' with
      | attr _ | virt _ => exact ih h
      | meth _ => exact List.mem_cons_of_mem _ (ih h)

/-- **The method's parameter list declares the same names and kinds as the bound function**, with the
    configuration parameter called `self` — for every signature shape (positional-only, positional,
    `*args`, keyword-only, `**kwargs`, annotated or not). -/
theorem method_kinds (m : Method) (hne : m.posonly ++ m.pos ≠ []) :
    readKinds (items m) = renameFirst (declared m) := by
  obtain ⟨p, l, hl⟩ : ∃ p l, baseItems m = argItem p :: l := by
    cases h : m.posonly ++ m.pos with
    | nil => exact absurd h hne
    | cons p ps => exact ⟨p, _, by rw [baseItems, h]; rfl⟩
  rw [← readKinds_baseItems, items, hl, readKinds_setFirstSelf]

/-- **One class.**  The first line is the class header; every other line is empty or indented, so it
    belongs to that class body. -/
theorem one_class (cls : String) (fs : Fields) :
    ∃ body, (generate cls fs).lines = ("class " ++ cls ++ "(cincoconfig.core.ConfigType):") :: body ∧
      ∀ l ∈ body, l = "" ∨ ∃ r, l = indent r := by
  refine ⟨_, rfl, fun l hl => ?_⟩
  simp only [List.append_eq, List.nil_append, List.mem_append, List.mem_map, List.mem_singleton] at hl
  -- in the order of `Stub.lines` after the header: an attribute line, the blank line, the `__init__` line, the blank line before
  -- the methods (present only if there are any), a method line
  rcases hl with (((⟨p, _, rfl⟩ | h) | h) | h) | ⟨d, _, rfl⟩
  · exact .inr ⟨_, rfl⟩
  · exact .inl h
  · exact .inr ⟨_, h⟩
  · split at h
    · cases h
    · exact .inl (List.mem_singleton.1 h)
  · exact .inr ⟨_, rfl⟩

/-- the number of lines: header, one per attribute, blank, constructor, and (if any) blank plus one per method -/
theorem line_count (cls : String) (fs : Fields) :
    (generate cls fs).lines.length =
      3 + (attrsOf fs).length + (if (methodsOf fs).isEmpty then 0 else 1) + (methodsOf fs).length := by
  simp only [Stub.lines, generate, List.length_append, List.length_map, List.length_cons, List.length_nil]
  by_cases h : (methodsOf fs).isEmpty = true <;> simp [h] <;> omega

/-- **Generating a stub has no observable side effect**: the effects the translator finds in the current
    `stubs.py` (writes to standard output, writes to the schema or configuration) are exactly the model's — none. -/
theorem no_side_effect (cls : String) (fs : Fields) :
    (generateStub cls fs).2 = [] ∧ Generated.stubEffects = (generateStub cls fs).2 :=
  ⟨rfl, rfl⟩

/-- the model's text is the rendering of the declaration tree the theorems above speak about -/
theorem text_is_rendering (cls : String) (fs : Fields) :
    (generateStub cls fs).1 = (generate cls fs).lines := rfl

def exM : Method :=
  { posonly := [⟨"cfg", none⟩, ⟨"a", some (.builtin "int")⟩], pos := [⟨"b", none⟩], varargs := some "rest",
    kwonly := [⟨"k", some (.generic "typing.List" [.builtin "str"])⟩], varkw := some "kw",
    ret := some (some .noneT) }

example : exM.posonly ++ exM.pos ≠ [] ∧
    readKinds (items exM) =
      [("self", .posOnly), ("a", .posOnly), ("b", .pos), ("rest", .varArgs), ("k", .kwOnly), ("kw", .varKw)] ∧
    methodLine "go" exM =
      "def go(self, a: int, /, b: typing.Any, *rest, k: typing.List[str], **kw) -> None: ..." :=
  ⟨List.cons_ne_nil _ _, by decide +kernel, by decide +kernel⟩

example :
    (generate "T" [("x", .attr (.builtin "int")), ("v", .virt (.text "")), ("go", .meth exM),
      ("sub", .attr (.named "cincoconfig.core" "Schema"))]).lines =
    ["class T(cincoconfig.core.ConfigType):", "    x: int", "    v: typing.Any",
     "    sub: cincoconfig.core.Schema", "",
     "    def __init__(self, x: int, sub: cincoconfig.core.Schema): ...", "",
     "    def go(self, a: int, /, b: typing.Any, *rest, k: typing.List[str], **kw) -> None: ..."] := by
  decide +kernel

end Cinco.C20
