import Cinco.Proofs.Include
/-
  C18 — including files is a deep merge in the including scope, included values win.
-/
namespace Cinco.C18
open Cinco Cinco.Include Cinco.Kvs

/-- **Lookup law.** For every key, the merged tree holds: the recursive merge when both sides hold maps,
    otherwise the included (child) value when the child has the key, otherwise the base value. -/
theorem merge_lookup (b ch : Kvs) (hc : (keys ch).Nodup) (k : String) :
    lookup k (combine b ch) =
      match lookup k b, lookup k ch with
      | some (.dict x), some (.dict y) => some (.dict (combine x y))
      | _, some v => some v
      | r, none => r := by
  rw [combine, lookup_combineInto b k ch b hc]
  split
  · next x y hb hch => rw [hch, hb, Option.map_some, Option.some_or, mergeVal_dict_dict]
  · next v hch hnot => rw [hch, Option.map_some, Option.some_or, mergeVal_of_not_both hnot]
  · next hch => rw [hch, Option.map_none, Option.none_or]

/-- **Key law.** Keys present on only one side are kept; order = base keys, then new child keys in child order. -/
theorem merge_keys (b ch : Kvs) (hc : (keys ch).Nodup) :
    keys (combine b ch) = keys b ++ (keys ch).filter (fun k => decide (k ∉ keys b)) :=
  keys_combineInto b ch b hc

/-- Merging keeps the dict invariant (no key twice). -/
theorem merge_nodup (b ch : Kvs) (hb : (keys b).Nodup) (hc : (keys ch).Nodup) :
    (keys (combine b ch)).Nodup := by
  rw [merge_keys b ch hc]
  refine List.nodup_append.2 ⟨hb, hc.filter _, ?_⟩
  intro x hx y hy hxy
  subst hxy
  simp only [List.mem_filter, decide_eq_true_eq] at hy
  exact hy.2 hx

/-- Merging nothing changes nothing. -/
theorem merge_empty_child (b : Kvs) : combine b [] = b := rfl

/-- Merging into nothing yields the included tree (for trees that satisfy the dict invariant). -/
theorem merge_empty_base : ∀ (ch : Kvs), (keys ch).Nodup → combine [] ch = ch :=
  fun ch hnd => combine_of_disjoint [] ch hnd

/-- Included value wins on a map / non-map conflict, in both directions. -/
theorem conflict_child_wins (b ch : Kvs) (hc : (keys ch).Nodup) (k : String) (v : Tree)
    (hv : lookup k ch = some v) (hconf : (∀ y, v ≠ .dict y) ∨ (∀ x, lookup k b ≠ some (.dict x))) :
    lookup k (combine b ch) = some v := by
  rw [combine, lookup_combineInto b k ch b hc, hv, Option.map_some, Option.some_or]
  refine congrArg some (mergeVal_of_not_both fun x y hb hy => ?_)
  rcases hconf with h | h
  · exact h y hy
  · exact h x hb

/-- A schema without include fields anywhere never changes a tree whose nested-schema values are maps
    (so a load without includes is just `load_tree`). -/
theorem no_includes_identity (resolve : Tree → Option Kvs) (k : String) (t : Kvs) :
    process resolve (.mk [] []) t = .ok t ∧
    processSubs resolve [(k, .mk [] [])] t =
      .ok (match lookup k t with
           | some (.dict sub) => if sub.isEmpty then t else Kvs.set k (.dict sub) t
           | _ => t) := by
  refine ⟨rfl, ?_⟩
  rw [processSubs]
  cases lookup k t with
  | none => rfl
  | some v =>
    cases v with
    | dict sub => cases sub <;> rfl
    | _ => rfl

/-- One include at the root: the result is the deep merge of the included tree into the document. -/
theorem include_root (resolve : Tree → Option Kvs) (inc : String) (t ch : Kvs) (fn : Tree)
    (hfn : lookup inc t = some fn) (hnn : fn ≠ .null) (hres : resolve fn = some ch) :
    process resolve (.mk [inc] []) t = .ok (combine t ch) := by
  rw [process_mk, processIncs_cons resolve [] hfn hnn, hres]
  rfl

/-- An include whose file cannot be resolved makes the load fail. -/
theorem include_missing_fails (resolve : Tree → Option Kvs) (inc : String) (rest : List String)
    (subs : List (String × IncSchema)) (t : Kvs) (fn : Tree)
    (hfn : lookup inc t = some fn) (hnn : fn ≠ .null) (hres : resolve fn = none) :
    process resolve (.mk (inc :: rest) subs) t = .error .unresolved := by
  rw [process_mk, processIncs_cons resolve rest hfn hnn, hres]
  rfl

/-- No include named (key absent or null): nothing is merged for that field. -/
theorem include_absent_skipped (resolve : Tree → Option Kvs) (inc : String) (rest : List String) (t : Kvs)
    (h : lookup inc t = none ∨ lookup inc t = some .null) :
    processIncs resolve (inc :: rest) t = processIncs resolve rest t := by
  rcases h with h | h <;> simp [processIncs, h]

/-- A chain in one scope: the second include is looked up in the tree *after* the first merge
    (so an included file may itself name a later include field), and merges happen in schema order. -/
theorem include_chain (resolve : Tree → Option Kvs) (i1 i2 : String) (t c1 c2 : Kvs) (f1 f2 : Tree)
    (h1 : lookup i1 t = some f1) (n1 : f1 ≠ .null) (r1 : resolve f1 = some c1)
    (h2 : lookup i2 (combine t c1) = some f2) (n2 : f2 ≠ .null) (r2 : resolve f2 = some c2) :
    process resolve (.mk [i1, i2] []) t = .ok (combine (combine t c1) c2) := by
  rw [process_mk, processIncs_cons resolve [i2] h1 n1, r1]
  simp only
  rw [processIncs_cons resolve [] h2 n2, r2]
  rfl

/-- An include inside a nested schema merges into that nested scope only; every other root key is untouched. -/
theorem include_nested_scope (resolve : Tree → Option Kvs) (s inc : String) (t sub ch : Kvs) (fn : Tree)
    (hs : lookup s t = some (.dict sub)) (hfn : lookup inc sub = some fn) (hnn : fn ≠ .null)
    (hres : resolve fn = some ch) :
    ∃ t', process resolve (.mk [] [(s, .mk [inc] [])]) t = .ok t' ∧
      lookup s t' = some (.dict (combine sub ch)) ∧ ∀ k, k ≠ s → lookup k t' = lookup k t := by
  have hne : sub ≠ [] := fun e => by rw [e] at hfn; cases hfn
  refine ⟨Kvs.set s (.dict (combine sub ch)) t, ?_, by rw [lookup_set, if_pos rfl], fun k hk => by rw [lookup_set, if_neg (Ne.symm hk)]⟩
  show processSubs resolve [(s, .mk [inc] [])] t = _
  rw [processSubs_cons_dict resolve _ _ hs hne, include_root resolve inc sub ch fn hfn hnn hres]
  rfl

/-- Non-vacuity: a base and a child sharing a map key, a conflict key and disjoint keys. -/
example :
    let b : Kvs := [("a", .dict [("x", .int 1), ("y", .int 2)]), ("c", .dict [("q", .null)]), ("only_b", .bool true)]
    let ch : Kvs := [("a", .dict [("y", .int 3), ("z", .int 4)]), ("c", .int 7), ("only_c", .str ['s'])]
    (keys ch).Nodup ∧
    keys (combine b ch) = ["a", "c", "only_b", "only_c"] ∧
    lookup "c" (combine b ch) = some (.int 7) :=
  ⟨by decide +kernel, by decide +kernel, by decide +kernel⟩

end Cinco.C18
