import Cinco.Proofs.Defined
import Cinco.Props.C06
/-
  C12 — defaults, user-defined status and reset behave as a consistent state machine.
-/
namespace Cinco.C12
open Cinco Cinco.Field Cinco.Config Cinco.Config.Defined

/-- fields whose `__setdefault__` stores a value in the configuration -/
def stores : SField → Bool
  | .virtual _ _ => false
  | .method => false
  | _ => true

/-- `is_value_defined` on the owning configuration -/
def defined (c : Cfg) (k : String) : Bool := !c.defaults.contains k

end Cinco.C12

/- the two writes read through `defined`: lemmas of C12b's status machine, stated here because the theorems of this file
   already need them -/
namespace Cinco.C12b
open Cinco Cinco.Config

theorem defined_setUser (c : Cfg) (k k' : String) (sl : Slot) :
    C12.defined (c.setUser k sl) k' = (k' == k || C12.defined c k') := by
  simp only [C12.defined, Cfg.defaults_contains_setUser, Bool.not_and, bne, Bool.not_not, Bool.or_comm]

theorem defined_setDefault (c : Cfg) (k k' : String) (sl : Slot) :
    C12.defined (c.setDefault k sl) k' = (k' != k && C12.defined c k') := by
  simp only [C12.defined, Cfg.defaults_contains_setDefault, Bool.not_or, bne, Bool.and_comm]

end Cinco.C12b

namespace Cinco.C12
open Cinco Cinco.Field Cinco.Config Cinco.Config.Defined Cinco.C12b

theorem stores_eq (f : SField) : stores f = storesD f := by cases f <;> rfl

/-- **`__setdefault__` marks its own key as default and touches no other key** (every field kind that stores a value). -/
theorem setDefault_marks (W : World) (path k : String) (f : SField) (c c' : Cfg) (n n' : Nat)
    (hstore : stores f = true)
    (h : setDefault W path k f c n = .ok (c', n')) :
    defined c' k = false ∧ (∀ k', k' ≠ k → c'.get k' = c.get k') ∧ (∀ k', k' ≠ k → defined c' k' = defined c k') := by
  obtain ⟨o, ho, rfl⟩ := setDefault_ok.1 h
  have hsome : o.isSome = true := by rw [defaultSlot_isSome ho, ← stores_eq]; exact hstore
  obtain ⟨sl, rfl⟩ := Option.isSome_iff_exists.1 hsome
  refine ⟨?_, fun k' hk' => Cfg.get_setDefault_other c hk' sl, fun k' hk' => ?_⟩
  · rw [Cfg.storeDefault, defined_setDefault, bne_self_eq_false, Bool.false_and]
  · rw [Cfg.storeDefault, defined_setDefault, bne_iff_ne.2 hk', Bool.true_and]

/-- **A plain field without an environment binding starts at its declared default.** -/
theorem setDefault_plain_value (W : World) (path k : String) (fs : FieldSpec) (m : LeafMeta) (c c' : Cfg) (n n' : Nat)
    (hk : match fs.kind with | .list _ => False | .dict _ _ => False | .challenge _ => False | _ => True)
    (henv : m.env = none) (h : setDefault W path k (.leaf fs m) c n = .ok (c', n')) :
    c'.get k = some (.val m.default.value) := by
  rw [setDefault_leaf, leafDefault_plain W path k fs m hk (envValue_of_env_none W m henv)] at h
  cases h
  exact Cfg.get_setDefault_same _ _ _

/-- **A field becomes user-defined exactly when a value is successfully assigned**: an accepted assignment to `k` defines `k`
    and changes the status of no other key. -/
theorem defined_set (W : World) (fuel : Nat) (s : Schema) (path : String) (c : Cfg) (k : String) (v : Val) (n : Nat)
    (fs : FieldSpec) (m : LeafMeta) (hf : s.get k = some (.leaf fs m))
    (hok : (setValue W (fuel + 1) s path c k (.val v) n).err = none) :
    defined (setValue W (fuel + 1) s path c k (.val v) n).cfg k = true ∧
    ∀ k', k' ≠ k → defined (setValue W (fuel + 1) s path c k (.val v) n).cfg k' = defined c k' := by
  refine ⟨?_, fun k' hk' => congrArg (!·) ((setValue_assigned W (fuel + 1) s path c k (.val v) n).defaults_other hk')⟩
  rw [setValue_leaf W fuel s path c k _ n hf] at hok ⊢
  cases hv : validate W.fe.toEnv fs (Arg.val v).value with
  | error e => rw [hv] at hok; cases hok
  | ok v' => rw [defined_setUser, beq_self_eq_true, Bool.true_or]

/-- **A rejected assignment never changes the status of any key** (corollary of C06). -/
theorem defined_reject (W : World) (fuel : Nat) (s : Schema) (path : String) (c : Cfg) (k : String) (a : Arg) (n : Nat)
    (h : (setValue W fuel s path c k a n).err ≠ none) (k' : String) :
    defined (setValue W fuel s path c k a n).cfg k' = defined c k' := by
  rw [C06.setValue_rejected_unchanged W fuel s path c k a n h]

/-- **Reset restores the default and the not-user-defined status and touches no other key** (a key of the configuration itself). -/
theorem reset_restores (W : World) (fuel : Nat) (s : Schema) (c : Cfg) (k : String) (n : Nat) (f : SField)
    (hk : '.' ∉ k.toList) (hf : s.get k = some f) (hstore : stores f = true)
    (hok : (resetValue W (fuel + 1) s c k.toList n).err = none) :
    ∃ c1 n1, setDefault W "" k f c n = .ok (c1, n1) ∧ (resetValue W (fuel + 1) s c k.toList n).cfg = c1 ∧
      defined c1 k = false ∧ (∀ k', k' ≠ k → c1.get k' = c.get k') ∧ (∀ k', k' ≠ k → defined c1 k' = defined c k') := by
  rw [resetValue_key W fuel s c n hk hf] at hok ⊢
  cases hsd : setDefault W "" k f c n with
  | error e => rw [hsd] at hok; cases hok
  | ok r => exact ⟨r.1, r.2, rfl, rfl, setDefault_marks W "" k f c r.1 n r.2 hstore hsd⟩

end Cinco.C12
