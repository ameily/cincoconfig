import Cinco.Proofs.Heap
import Cinco.Generated.Defaults
/-
  C13 — configurations built from one schema share no mutable state.

  Model: `Cinco/Heap/Model.lean` (a heap of list / dict / configuration cells with ghost owners, so that the three ways a
  mutable default can reach a new configuration — `alias`, `shallow`, `deep` — are all expressible).

  Conventions.  `S = initS specs` is the schema table with the declared default trees allocated (owner `schema`);
  `init specs` is the state before any configuration exists; a *history* is any list of `(root index, Op)`, i.e. any
  interleaving of `build`s and operations on any roots.  `State.cfg s j`, `State.dyn s j` are `none` while root `j` has not
  been built.  `obsCfg` / `obsDefaults` use the built-in fuel `heap.next + 1`; the `…N n` variants take an explicit fuel and
  the theorems about them hold for *every* fuel (no hypothesis).  `AllDeep S` is the only hypothesis on the schema table.
  `Inv S s` bundles the three invariants `Sep` (ownership), `Bounded` (acyclic, depth ≤ heap size) and `NoShare`; all three
  hold initially and are preserved by every step (`sep_step`, `bounded_step`, `noShare_step`), so every reachable state satisfies them (`inv_reached`).
-/
namespace Cinco.C13
open Cinco.Heap

/-- the state reached from the initial state by a history -/
abbrev reached (specs : List SchemaSpec) (hist : List (Nat × Op)) : State := run (initS specs) (init specs) hist

/-! ## the separation invariant -/

/-- **`Sep` holds initially** (together with the depth bound that makes the built-in fuel sufficient). -/
theorem sep_init (specs : List SchemaSpec) : Sep (initS specs) (init specs) ∧ Bounded (init specs).heap :=
  ⟨Heap.sep_init specs, bounded_init specs⟩

/-- **`Sep` is preserved by every step** on every root (successful or failing), under `AllDeep`. -/
theorem sep_step {S : Schemas} (hS : AllDeep S) {s : State} (hs : Sep S s) (i : Nat) (op : Op) : Sep S (step S s i op).1 :=
  step_sep hS hs i op

/-- the depth bound is preserved as well -/
theorem bounded_step {S : Schemas} (hS : AllDeep S) {s : State} (hs : Sep S s) (hb : Bounded s.heap) (i : Nat) (op : Op) :
    Bounded (step S s i op).1.heap := step_bounded hS hs hb i op

/-- hence both hold in every reachable state -/
theorem sep_reached (specs : List SchemaSpec) (hS : AllDeep (initS specs)) (hist : List (Nat × Op)) :
    Sep (initS specs) (reached specs hist) ∧ Bounded (reached specs hist).heap :=
  run_invariant (P := fun s => Sep (initS specs) s ∧ Bounded s.heap) hist (fun _ h p _ => step_sep_bounded hS h p.1 p.2)
    (sep_init specs)

/-- **no sharing** is preserved too: under `AllDeep` no step makes two references to one cell (needed for `items_independent`) -/
theorem noShare_step {S : Schemas} (hS : AllDeep S) {s : State} (hs : Sep S s) (ns : NoShare s.heap) (i : Nat) (op : Op) :
    NoShare (step S s i op).1.heap := step_noShare hS hs ns i op

/-- all three invariants (`Inv` = `Sep` + `Bounded` + `NoShare`) hold in every reachable state -/
theorem inv_reached (specs : List SchemaSpec) (hS : AllDeep (initS specs)) (hist : List (Nat × Op)) :
    Inv (initS specs) (reached specs hist) := inv_run hS hist (inv_init specs)

/-- **every cell reachable from root `k` is owned by `cfg k`** -/
theorem sep_reach_root {S : Schemas} {s : State} (hs : Sep S s) {k r : Nat} (hr : s.roots[k]? = some r) {x : Nat}
    (hx : Reach s.heap (.ref r) x) : s.heap.owner? x = some (.cfg k) := by
  obtain ⟨c, e⟩ := reach_owned hs.closed hx (o := .cfg k) (hs.roots k r hr)
  simp [Heap.owner?, e]

/-- **every cell reachable from a declared default is owned by `schema`** -/
theorem sep_reach_default {S : Schemas} {s : State} (hs : Sep S s) {sd : SchemaDecl} (hsd : sd ∈ S) {p : String × HVal}
    (hp : p ∈ leafDefaults sd.fields) {x : Nat} (hx : Reach s.heap p.2 x) : s.heap.owner? x = some .schema := by
  obtain ⟨c, e⟩ := reach_owned hs.closed hx (o := .schema) (hs.defaults sd hsd p hp)
  simp [Heap.owner?, e]

/-- **a step on root `i` writes only cells owned by `cfg i` and allocates only cells owned by `cfg i`**: every cell that exists
    and has another owner (in particular every schema-owned cell) is literally unchanged, no cell changes owner, and all
    new cells belong to `cfg i`. -/
theorem step_writes_only_own {S : Schemas} (hS : AllDeep S) {s : State} (hs : Sep S s) (i : Nat) (op : Op) :
    Ext i s.heap (step S s i op).1.heap := (step_acts hS hs i op).shape.ext

/-- schema-owned cells are never written -/
theorem schema_cells_never_written {S : Schemas} (hS : AllDeep S) {s : State} (hs : Sep S s) (i : Nat) (op : Op) {a : Nat} {c : Cell}
    (e : s.heap.get? a = some (.schema, c)) : (step S s i op).1.heap.get? a = some (.schema, c) :=
  (step_acts hS hs i op).shape.frame e (by simp)

/-- **congruence: the observation of a value depends only on the cells of its owner.**  If `h'` agrees with `h` on every cell
    owned by `o` and regions of `h` are closed, every value owned by `o` reads the same in both heaps, at every fuel. -/
theorem obs_depends_on_owned_cells {h h' : Heap} {o : Owner} (hc : Closed h)
    (agree : ∀ a c, h.get? a = some (o, c) → h'.get? a = some (o, c)) (n : Nat) (v : HVal) (ov : OwnedBy h o v) :
    readV n h' v = readV n h v :=
  read_agree (fun a => ∃ c, h.get? a = some (o, c)) (fun a ⟨c, e⟩ => ⟨o, c, e, agree a c e, fun b hb => hc a o c e _ hb⟩)
    n v (fun b hb => by subst hb; exact ov)

/-! ## operations on one configuration are invisible through another -/

/-- **Frame, one step.**  In any state satisfying the invariant, an operation `o` on root `i` (any operation: `build` of root
    `i`, assignment, in-place mutation, reset, adding an item; successful or not) leaves the deep observation and the
    dynamic-field list of every other root `j` unchanged, and leaves every declared default unchanged.
    (For a root `j` not yet built both sides are `none`.) -/
theorem frame_other_config {S : Schemas} (hS : AllDeep S) {s : State} (hs : Sep S s) (hb : Bounded s.heap)
    {i j : Nat} (hij : i ≠ j) (o : Op) :
    (step S s i o).1.cfg j = s.cfg j ∧ (step S s i o).1.dyn j = s.dyn j ∧
    obsDefaults (step S s i o).1.heap S = obsDefaults s.heap S :=
  let act := step_acts hS hs i o
  ⟨act.cfg_other hs hb hij, act.dyn_other hs hij, act.shape.defaults hs hb⟩

/-- the same at every explicit fuel (needs no depth bound) -/
theorem frame_other_config_fuel {S : Schemas} (hS : AllDeep S) {s : State} (hs : Sep S s) {i j : Nat} (hij : i ≠ j) (o : Op) (n : Nat) :
    (step S s i o).1.cfgN n j = s.cfgN n j ∧ obsDefaultsN n (step S s i o).1.heap S = obsDefaultsN n s.heap S :=
  ⟨(step_acts hS hs i o).cfgN_other hs hij n, (step_acts hS hs i o).shape.defaultsN hs n⟩

/-- **Frame, operation sequences** on root `i`. -/
theorem frame_other_config_seq {S : Schemas} (hS : AllDeep S) {s : State} (hs : Sep S s) (hb : Bounded s.heap)
    {i j : Nat} (hij : i ≠ j) (ops : List Op) :
    (runOn S s i ops).cfg j = s.cfg j ∧ (runOn S s i ops).dyn j = s.dyn j ∧
    obsDefaults (runOn S s i ops).heap S = obsDefaults s.heap S := by
  refine (runOn_invariant (P := fun s' => (Sep S s' ∧ Bounded s'.heap) ∧ s'.cfg j = s.cfg j ∧ s'.dyn j = s.dyn j ∧
    obsDefaults s'.heap S = obsDefaults s.heap S) i ops ?_ ⟨⟨hs, hb⟩, rfl, rfl, rfl⟩).2
  intro s' ⟨h, e1, e2, e3⟩ o _
  have f := frame_other_config hS h.1 h.2 hij o
  exact ⟨step_sep_bounded hS h i o, f.1.trans e1, f.2.1.trans e2, f.2.2.trans e3⟩

/-- **Frame, full statement.**  For every schema table with `AllDeep`, every history `hist`, every two distinct root indices
    and every operation sequence on `i` afterwards: root `j` (built before, or not at all) and the declared defaults observe
    the same before and after. -/
theorem frame_other_config_reached (specs : List SchemaSpec) (hS : AllDeep (initS specs)) (hist : List (Nat × Op))
    {i j : Nat} (hij : i ≠ j) (ops : List Op) :
    (runOn (initS specs) (reached specs hist) i ops).cfg j = (reached specs hist).cfg j ∧
    (runOn (initS specs) (reached specs hist) i ops).dyn j = (reached specs hist).dyn j ∧
    obsDefaults (runOn (initS specs) (reached specs hist) i ops).heap (initS specs) =
      obsDefaults (reached specs hist).heap (initS specs) :=
  frame_other_config_seq hS (sep_reached specs hS hist).1 (sep_reached specs hS hist).2 hij ops

/-! ## the declared defaults never change -/

/-- **After any history the declared defaults of every schema read exactly as in the initial state.** -/
theorem defaults_never_change (specs : List SchemaSpec) (hS : AllDeep (initS specs)) (hist : List (Nat × Op)) :
    obsDefaults (reached specs hist).heap (initS specs) = obsDefaults (init specs).heap (initS specs) :=
  run_const (fun s => obsDefaults s.heap (initS specs)) hist (fun _ h p _ => step_sep_bounded hS h p.1 p.2)
    (fun _ h p _ => (step_acts hS h.1 p.1 p.2).shape.defaults h.1 h.2) ⟨Heap.sep_init specs, bounded_init specs⟩

/-- the same at every explicit fuel -/
theorem defaults_never_change_fuel (specs : List SchemaSpec) (hS : AllDeep (initS specs)) (hist : List (Nat × Op)) (n : Nat) :
    obsDefaultsN n (reached specs hist).heap (initS specs) = obsDefaultsN n (init specs).heap (initS specs) :=
  run_const (fun s => obsDefaultsN n s.heap (initS specs)) hist (fun _ h p _ => step_sep hS h p.1 p.2)
    (fun _ h p _ => (step_acts hS h p.1 p.2).shape.defaultsN h n) (Heap.sep_init specs)

/-! ## a configuration built later is as pristine as one built first -/

/-- **A configuration built after any history observes exactly what a configuration built in the initial state observes**
    (the "before or after each other's mutations" clause).  Both sides are `none` only if schema 0 does not exist. -/
theorem fresh_build_pristine (specs : List SchemaSpec) (hS : AllDeep (initS specs)) (hist : List (Nat × Op)) :
    (step (initS specs) (reached specs hist) (reached specs hist).roots.length .build).1.cfg (reached specs hist).roots.length =
    (step (initS specs) (init specs) 0 .build).1.cfg 0 :=
  build_same hS (sep_reached specs hS hist).1 (sep_reached specs hS hist).2 (Heap.sep_init specs) (bounded_init specs)
    (fun _ hsd _ _ _ hm n => run_default_read hS hist (Heap.sep_init specs) hsd hm n)

/-- the functional form: at every fuel `n` the new root reads as `pristine`, a function of the schema table and of the reads
    of the declared defaults *in the initial state* only. -/
theorem fresh_build_pristine_fuel (specs : List SchemaSpec) (hS : AllDeep (initS specs)) (hist : List (Nat × Op)) (n : Nat) :
    (step (initS specs) (reached specs hist) (reached specs hist).roots.length .build).1.cfgN n (reached specs hist).roots.length =
      if ((initS specs)[0]?).isSome
      then some (pristine (initS specs) (fun m v => readV m (init specs).heap v) (buildFuel (initS specs)) n 0)
      else none :=
  build_cfgN hS (sep_reached specs hS hist).1 _
    (fun _ hsd _ _ _ hm m => run_default_read hS hist (Heap.sep_init specs) hsd hm m) n

/-! ## dynamic fields stay with their configuration -/

/-- **Adding a dynamic key to root `i`** (an assignment to an undeclared key, at any depth of `path`) changes the dynamic-field
    list of no other root — and, by construction, not the schema: `step` has no way to return a schema table. -/
theorem dynamic_stays_local {S : Schemas} (hS : AllDeep S) {s : State} (hs : Sep S s) {i j : Nat} (hij : i ≠ j)
    (path : List PStep) (key : String) (value : Tree) :
    (step S s i (.set path key value)).1.dyn j = s.dyn j ∧
    fieldNames (stepWorld (S, s) i (.set path key value)).1 = fieldNames S :=
  ⟨(step_acts hS hs i _).dyn_other hs hij, rfl⟩

/-- the schema table (declared defaults, field set, field options) after any history is the schema table before -/
theorem schema_immutable (S : Schemas) (s : State) : ∀ (hist : List (Nat × Op)), (runWorld (S, s) hist).1 = S := by
  intro hist
  induction hist generalizing s with
  | nil => rfl
  | cons p rest ih => exact ih _

/-! ## items of configuration lists (and sub-configurations) are independent of each other

  Paths are lists of `PStep`: `fld name` enters a sub-configuration, `item name n` enters the `n`-th configuration of the
  `cfgList` field `name`.  `State.at s i p` is the address of the configuration at path `p` below root `i`,
  `State.cfgAt s i p` its deep observation.  Two configurations of one root are *unrelated* when
  neither path is a prefix of the other — e.g. two items of one list, items of two different lists of the same parent, an item
  and a sibling sub-configuration.  (If `pB` extended `pA`, `B` would be a part of `A` and an operation on `A` may of course
  change it.)  The item schema plays no role: the statements hold whether or not the lists share an item schema. -/

/-- **Unrelated configurations of one root.**  An operation on root `i` whose path goes through `pA` (it acts on the
    configuration at `pA` or anywhere inside it) neither moves nor changes the configuration at an unrelated path `pB`. -/
theorem items_independent {S : Schemas} (hS : AllDeep S) {s : State} (inv : Inv S s) {i : Nat} (o : Op)
    {pA rest pB : List PStep} (hop : o.path = pA ++ rest) (h1 : ¬ pA <+: pB) (h2 : ¬ pB <+: pA) {B : Nat}
    (hB : s.at i pB = some B) :
    (step S s i o).1.at i pB = some B ∧ (step S s i o).1.cfgAt i pB = s.cfgAt i pB :=
  (step_acts hS inv.sep i o).incomparable inv hop h1 h2 hB

/-- the same for a sequence of operations that all go through `pA` -/
theorem items_independent_seq {S : Schemas} (hS : AllDeep S) {s : State} (inv : Inv S s) {i : Nat} (ops : List Op)
    {pA pB : List PStep} (hops : ∀ o ∈ ops, pA <+: o.path) (h1 : ¬ pA <+: pB) (h2 : ¬ pB <+: pA) {B : Nat}
    (hB : s.at i pB = some B) :
    (runOn S s i ops).at i pB = some B ∧ (runOn S s i ops).cfgAt i pB = s.cfgAt i pB := by
  refine (runOn_invariant (P := fun s' => Inv S s' ∧ s'.at i pB = some B ∧ s'.cfgAt i pB = s.cfgAt i pB) i ops ?_
    ⟨inv, hB, rfl⟩).2
  intro s' ⟨inv', hB', e'⟩ o ho
  obtain ⟨rest, hrest⟩ := hops o ho
  obtain ⟨a1, a2⟩ := items_independent hS inv' o hrest.symm h1 h2 hB'
  exact ⟨inv_step hS inv' i o, a1, a2.trans e'⟩

/-- **Two items of lists of the same parent configuration** (the same list with different indices, or two different lists):
    operations through one item leave the other alone. -/
theorem items_independent_siblings {S : Schemas} (hS : AllDeep S) {s : State} (inv : Inv S s) {i : Nat} (o : Op)
    {p rest : List PStep} {l1 l2 : String} {n1 n2 : Nat} (hne : (l1, n1) ≠ (l2, n2))
    (hop : o.path = (p ++ [.item l1 n1]) ++ rest) {B : Nat} (hB : s.at i (p ++ [.item l2 n2]) = some B) :
    (step S s i o).1.at i (p ++ [.item l2 n2]) = some B ∧
    (step S s i o).1.cfgAt i (p ++ [.item l2 n2]) = s.cfgAt i (p ++ [.item l2 n2]) := by
  have apart : ∀ {a b : String × Nat}, a ≠ b → ¬ (p ++ [PStep.item a.1 a.2]) <+: (p ++ [PStep.item b.1 b.2]) := by
    intro a b hab hp
    rw [List.prefix_append_right_inj, List.cons_prefix_cons, PStep.item.injEq] at hp
    exact hab (Prod.ext hp.1.1 hp.1.2)
  exact items_independent hS inv o hop (apart hne) (apart hne.symm) hB

/-- **Items (or any configurations) below different roots**: an operation on root `i` neither moves nor changes a
    configuration at any path below another root `j`. -/
theorem items_independent_roots {S : Schemas} (hS : AllDeep S) {s : State} (inv : Inv S s) {i j : Nat} (hij : i ≠ j) (o : Op)
    {pB : List PStep} {B : Nat} (hB : s.at j pB = some B) :
    (step S s i o).1.at j pB = some B ∧ (step S s i o).1.cfgAt j pB = s.cfgAt j pB :=
  (step_acts hS inv.sep i o).at_other inv.sep inv.bounded hij hB

/-- the general fact behind the three: an operation on root `i` at path `q` changes the observation of the configuration at
    path `pB` of the same root only if `pB` is a prefix of `q` (i.e. only if it acts on that configuration or inside it) -/
theorem frame_below_path {S : Schemas} (hS : AllDeep S) {s : State} (inv : Inv S s) {i : Nat} (o : Op)
    {pB : List PStep} (hp : ¬ pB <+: o.path) {B : Nat} (hB : s.at i pB = some B) :
    obsCfg (step S s i o).1.heap B = obsCfg s.heap B :=
  (step_acts hS inv.sep i o).obs_path inv hp hB

/-- in reachable states -/
theorem items_independent_reached (specs : List SchemaSpec) (hS : AllDeep (initS specs)) (hist : List (Nat × Op)) {i : Nat}
    (ops : List Op) {pA pB : List PStep} (hops : ∀ o ∈ ops, pA <+: o.path) (h1 : ¬ pA <+: pB) (h2 : ¬ pB <+: pA) {B : Nat}
    (hB : (reached specs hist).at i pB = some B) :
    (runOn (initS specs) (reached specs hist) i ops).at i pB = some B ∧
    (runOn (initS specs) (reached specs hist) i ops).cfgAt i pB = (reached specs hist).cfgAt i pB :=
  items_independent_seq hS (inv_reached specs hS hist) ops hops h1 h2 hB

/-! ## necessity of `AllDeep` and non-vacuity (all by kernel evaluation of the model) -/

section Demo

/-- one schema, one field `xs` whose default is the nested list `[["1"]]`, stored by discipline `d` -/
def spec (d : Disc) : List SchemaSpec :=
  [{ fields := [("xs", .leaf d (.list [.list [.atom "1"]]))], dynamic := true }]

/-- two configurations built from it -/
def two (d : Disc) : State := reached (spec d) [(0, .build), (1, .build)]

/-- `cfg.xs.append("9")` -/
def appendTop : Op := .mut [] "xs" [] (.append (.atom "9"))
/-- `cfg.xs[0].append("9")` -/
def appendInner : Op := .mut [] "xs" [.idx 0] (.append (.atom "9"))

def after (d : Disc) (o : Op) : State := (step (initS (spec d)) (two d) 0 o).1

def pristineObs : Tree := .dict [("xs", .list [.list [.atom "1"]])]
def pristineDefaults : List (List (String × Tree)) := [[("xs", .list [.list [.atom "1"]])]]

/-- both configurations start pristine, whatever the discipline -/
example (d : Disc) : (two d).cfg 0 = some pristineObs ∧ (two d).cfg 1 = some pristineObs ∧
    obsDefaults (two d).heap (initS (spec d)) = pristineDefaults := by cases d <;> decide +kernel

/-- `alias` violates the hypothesis of the theorems, `deep` satisfies it -/
example : ¬ AllDeep (initS (spec .alias)) := fun h => absurd (check_of_allDeep h) (by decide)
example : ¬ AllDeep (initS (spec .shallow)) := fun h => absurd (check_of_allDeep h) (by decide)
theorem deep_ok : AllDeep (initS (spec .deep)) := allDeep_of_check (by decide)

/-- **alias**: mutating the list through configuration 0 is seen through configuration 1 and in the schema default -/
theorem alias_leaks :
    (after .alias appendTop).cfg 1 = some (.dict [("xs", .list [.list [.atom "1"], .atom "9"])]) ∧
    (after .alias appendTop).cfg 1 ≠ (two .alias).cfg 1 ∧
    obsDefaults (after .alias appendTop).heap (initS (spec .alias)) ≠ obsDefaults (two .alias).heap (initS (spec .alias)) :=
  by decide +kernel

/-- **shallow**: the top level is separate (`shallow_inner_leaks`: the nested list is not) -/
theorem shallow_top_ok :
    (after .shallow appendTop).cfg 1 = (two .shallow).cfg 1 ∧
    obsDefaults (after .shallow appendTop).heap (initS (spec .shallow)) = obsDefaults (two .shallow).heap (initS (spec .shallow)) ∧
    (after .shallow appendTop).cfg 0 = some (.dict [("xs", .list [.list [.atom "1"], .atom "9"])]) :=
  by decide +kernel

/-- **shallow**: the nested list is still shared with configuration 1 and with the default -/
theorem shallow_inner_leaks :
    (after .shallow appendInner).cfg 1 = some (.dict [("xs", .list [.list [.atom "1", .atom "9"]])]) ∧
    (after .shallow appendInner).cfg 1 ≠ (two .shallow).cfg 1 ∧
    obsDefaults (after .shallow appendInner).heap (initS (spec .shallow)) ≠ obsDefaults (two .shallow).heap (initS (spec .shallow)) :=
  by decide +kernel

/-- **deep**: the same two histories are instances of `frame_other_config_reached`, every hypothesis discharged -/
theorem deep_top_framed :
    (after .deep appendTop).cfg 1 = (two .deep).cfg 1 ∧ (after .deep appendTop).dyn 1 = (two .deep).dyn 1 ∧
    obsDefaults (after .deep appendTop).heap (initS (spec .deep)) = obsDefaults (two .deep).heap (initS (spec .deep)) :=
  frame_other_config_reached (spec .deep) deep_ok [(0, .build), (1, .build)] (i := 0) (j := 1) (by decide) [appendTop]

theorem deep_inner_framed :
    (after .deep appendInner).cfg 1 = (two .deep).cfg 1 ∧ (after .deep appendInner).dyn 1 = (two .deep).dyn 1 ∧
    obsDefaults (after .deep appendInner).heap (initS (spec .deep)) = obsDefaults (two .deep).heap (initS (spec .deep)) :=
  frame_other_config_reached (spec .deep) deep_ok [(0, .build), (1, .build)] (i := 0) (j := 1) (by decide) [appendInner]

/-- under `deep` the two operations did happen (the statements are not about failing operations) -/
example : (after .deep appendTop).cfg 0 = some (.dict [("xs", .list [.list [.atom "1"], .atom "9"])]) ∧
    (after .deep appendInner).cfg 0 = some (.dict [("xs", .list [.list [.atom "1", .atom "9"]])]) ∧
    (after .deep appendInner).cfg 1 = some pristineObs := by decide +kernel

/-- a configuration built *after* the mutation is pristine under `deep` (instance of `fresh_build_pristine`) but not under `alias` -/
example : (step (initS (spec .deep)) (after .deep appendInner) 2 .build).1.cfg 2 = (step (initS (spec .deep)) (init (spec .deep)) 0 .build).1.cfg 0 :=
  fresh_build_pristine (spec .deep) deep_ok [(0, .build), (1, .build), (0, appendInner)]
example : (step (initS (spec .alias)) (after .alias appendTop) 2 .build).1.cfg 2 ≠ (step (initS (spec .alias)) (init (spec .alias)) 0 .build).1.cfg 0 :=
  by decide +kernel

/-- a dynamic field is recorded on the configuration it was assigned to, and nowhere else -/
example : ((step (initS (spec .deep)) (two .deep) 0 (.set [] "extra" (.atom "v"))).1.dyn 0 = some ["extra"]) ∧
    ((step (initS (spec .deep)) (two .deep) 0 (.set [] "extra" (.atom "v"))).1.dyn 1 = some []) ∧
    fieldNames (initS (spec .deep)) = [["xs"]] := by decide +kernel

/-- a schema with two configuration lists `a`, `b` whose items come from one item schema with a list default `v` -/
def listSpec (d : Disc) : List SchemaSpec :=
  [{ fields := [("a", .cfgList 1), ("b", .cfgList 1)], dynamic := false },
   { fields := [("v", .leaf d (.list []))], dynamic := false }]

/-- one root with one item in each list -/
def lists (d : Disc) : State := reached (listSpec d) [(0, .build), (0, .addItem [] "a"), (0, .addItem [] "b")]

/-- `cfg.a[0].v.append("x")` -/
def appendInItem : Op := .mut [.item "a" 0] "v" [] (.append (.atom "x"))

/-- with an aliased default the item of list `b` sees the mutation of the item of list `a` -/
example : (step (initS (listSpec .alias)) (lists .alias) 0 appendInItem).1.cfgAt 0 [.item "b" 0] = some (.dict [("v", .list [.atom "x"])]) ∧
    (lists .alias).cfgAt 0 [.item "b" 0] = some (.dict [("v", .list [])]) := by decide +kernel

/-- with `deep` the item of list `b` does not see it: an instance of `items_independent_siblings` (`B := 7` is the address of
    that item, found by evaluation; the last argument checks it) -/
theorem deep_items_independent :
    (step (initS (listSpec .deep)) (lists .deep) 0 appendInItem).1.cfgAt 0 [.item "b" 0] = (lists .deep).cfgAt 0 [.item "b" 0] :=
  (items_independent_siblings (allDeep_of_check (by decide)) (inv_reached (listSpec .deep) (allDeep_of_check (by decide)) _)
    appendInItem (p := []) (rest := []) (l1 := "a") (n1 := 0) (l2 := "b") (n2 := 0) (by decide) rfl (B := 7) (by decide +kernel)).2

example : (step (initS (listSpec .deep)) (lists .deep) 0 appendInItem).1.cfgAt 0 [.item "a" 0] = some (.dict [("v", .list [.atom "x"])]) ∧
    (lists .deep).cfgAt 0 [.item "b" 0] = some (.dict [("v", .list [])]) := by decide +kernel

end Demo

/-! ## the tie to the source: how `__setdefault__` hands a mutable default over

`Generated.defaultDisc` is rewritten from `/repo` on every run (harness/extract.py, `default_disciplines`): for `Field`,
`ListField` (typed / untyped) and `DictField` (typed / untyped) it records whether the default reaches a new configuration as
the object itself (`alias`), through `list()` / `dict()` (`shallow`), through a validating proxy (`proxy`: new top level, items
through the item field) or through `copy.deepcopy` (`deep`).  The correspondence check gives every leaf of the model the
discipline this table says; `AllDeep`, the one hypothesis of the theorems above, is therefore discharged exactly when the
table is all `deep`. -/

def discOfEntry : String → Disc
  | "deep" => .deep
  | "shallow" => .shallow
  | "proxy" => .shallow            -- a proxy copies the top level only where an item field keeps its items as they are
  | _ => .alias

/-- **Every `__setdefault__` of the current source deep-copies a mutable default.** -/
theorem source_disciplines_deep : ∀ e ∈ Generated.defaultDisc, discOfEntry e.2 = .deep := by
  decide

end Cinco.C13
