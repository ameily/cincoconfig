import Cinco.Proxy.ListProxy
import Cinco.Proxy.DictProxy
import Cinco.Proofs.FieldLemmas
import Cinco.Generated.ContainerShape
/-
  C17 — typed list/dict values behave like built-in list/dict of validated items.

  `lstep`, `bstep`, `dstep`, `bdstep` are unfolded by `f.eq_def` throughout: `simp only [lstep]` would first have Lean derive
  one equation per alternative of the definition, which costs more than every proof of this file together.
-/

/-! ### What the built-in's list functions hold afterwards: what was held before, or what was handed in -/
namespace Cinco.PyList
open Cinco

theorem mem_take_cons_drop {α} {xs : List α} {p q : Nat} {v x : α} (h : x ∈ xs.take p ++ v :: xs.drop q) : x ∈ v :: xs :=
  List.mem_cons.2 ((List.mem_append.1 h).elim (fun h => .inr (List.mem_of_mem_take h)) fun h =>
    (List.mem_cons.1 h).imp_right List.mem_of_mem_drop)

theorem mem_insertAt {xs : List Val} {p : Nat} {v x : Val} (h : x ∈ insertAt xs p v) : x ∈ v :: xs :=
  mem_take_cons_drop h

theorem mem_setAt {xs : List Val} {p : Nat} {v x : Val} (h : x ∈ setAt xs p v) : x ∈ v :: xs :=
  mem_take_cons_drop h

theorem mem_removeAt {xs : List Val} {p : Nat} {x : Val} (h : x ∈ removeAt xs p) : x ∈ xs :=
  (List.mem_append.1 h).elim List.mem_of_mem_take List.mem_of_mem_drop

theorem mem_setSlice {xs vs : List Val} {a b : Option Int} {x : Val} (h : x ∈ setSlice xs a b vs) : x ∈ xs ++ vs := by
  simp only [setSlice, List.mem_append] at h ⊢
  rcases h with (h | h) | h
  · exact Or.inl (List.mem_of_mem_take h)
  · exact Or.inr h
  · exact Or.inl (List.mem_of_mem_drop h)

theorem mem_setExtSlice {xs vs ys : List Val} {a b : Option Int} {st : Nat} (h : setExtSlice xs a b st vs = .ok ys)
    {x : Val} (hx : x ∈ ys) : x ∈ xs ++ vs := by
  unfold setExtSlice at h
  split at h
  · cases h
  · cases h
    -- every write of the fold stores one of the values
    refine List.foldlRecOn (motive := fun acc => ∀ x ∈ acc, x ∈ xs ++ vs) _ _ (fun x => List.mem_append_left vs) ?_ x hx
    intro acc ih p hp x hx
    rcases List.mem_cons.1 (mem_setAt hx) with rfl | hx
    · exact List.mem_append_right xs (List.of_mem_zip hp).2
    · exact ih x hx

end Cinco.PyList

namespace Cinco.C17
open Cinco Cinco.Field Cinco.PyList Cinco.Proxy

/-- how `normOp` and `normDOp` accept: the validation succeeded, and the operation is rebuilt around its result -/
theorem toOption_map_eq_some {ε α β} {r : Except ε α} {g : α → β} {b : β} :
    r.toOption.map g = some b ↔ ∃ a, r = .ok a ∧ g a = b := by
  cases r <;> simp [Except.toOption]

theorem extendLazy_ok (E : Env) (f : FieldSpec) (ys acc vs : List Val) (h : mapR (validate E f) ys = .ok vs) :
    extendLazy E f acc ys = (acc ++ vs, none) := by
  induction ys generalizing acc vs with
  | nil => cases h; simp [extendLazy]
  | cons y rest ih =>
    obtain ⟨v, vr, hy, hr, rfl⟩ := mapR_cons_eq_ok.1 h
    simp only [extendLazy, hy, ih (acc ++ [v]) vr hr, List.append_assoc, List.singleton_append]

/-- **A typed list refines the built-in list**: with acceptable arguments, every operation has exactly the effect and the
    result of the same operation on a plain list that is handed the normalised items — contents, order, length, return value. -/
theorem list_refines (E : Env) (f : FieldSpec) (xs : List Val) (op op' : LOp) (h : normOp E f op = some op') :
    lstep E f xs op = bstep xs op' := by
  cases op with
  | append v | insert i v =>
    obtain ⟨v', hv, rfl⟩ := toOption_map_eq_some.1 h
    simp only [lstep.eq_def, bstep.eq_def, hv]
  | extend it | iadd it =>
    cases it with
    | sameProxy ys => cases h; rfl
    | plain ys =>
      obtain ⟨vs, hm, rfl⟩ := toOption_map_eq_some.1 h
      simp only [lstep.eq_def, bstep.eq_def, itemsOf, extendLazy_ok E f ys xs vs hm]
  | setIdx i v =>
    obtain ⟨v', hv, rfl⟩ := toOption_map_eq_some.1 h
    simp only [lstep.eq_def, bstep.eq_def, hv]
    cases resolveIdx xs.length i <;> rfl
  | setSlice a b st it =>
    obtain ⟨vs, hm, rfl⟩ := toOption_map_eq_some.1 h
    simp only [lstep.eq_def, hm]
    rfl
  -- nothing is validated: the two definitions have the same text
  | pop _ | remove _ | delIdx _ | reverse | clear | imul _ => cases h; rfl

/-- an item is a result of the item field's validation -/
def ItemOk (E : Env) (f : FieldSpec) (v : Val) : Prop := ∃ u, validate E f u = .ok v
def AllOk (E : Env) (f : FieldSpec) (xs : List Val) : Prop := ∀ v ∈ xs, ItemOk E f v

/-- arguments borrowed from another proxy of the same field are themselves validated items -/
def OpOk (E : Env) (f : FieldSpec) : LOp → Prop
  | .extend (.sameProxy ys) => AllOk E f ys
  | .iadd (.sameProxy ys) => AllOk E f ys
  | _ => True

theorem allOk_of_subset {E : Env} {f : FieldSpec} {xs ys : List Val} (h : AllOk E f xs) (hs : ∀ v ∈ ys, v ∈ xs) : AllOk E f ys :=
  fun v hv => h v (hs v hv)

theorem allOk_nil {E : Env} {f : FieldSpec} : AllOk E f [] := fun _ h => nomatch h

theorem allOk_cons {E : Env} {f : FieldSpec} {v : Val} {xs : List Val} (hv : ItemOk E f v) (h : AllOk E f xs) : AllOk E f (v :: xs) :=
  List.forall_mem_cons.2 ⟨hv, h⟩

theorem allOk_append {E : Env} {f : FieldSpec} {xs ys : List Val} (hx : AllOk E f xs) (hy : AllOk E f ys) : AllOk E f (xs ++ ys) :=
  List.forall_mem_append.2 ⟨hx, hy⟩

theorem extendLazy_all_ok (E : Env) (f : FieldSpec) (ys acc : List Val) (h : AllOk E f acc) :
    AllOk E f (extendLazy E f acc ys).1 := by
  induction ys generalizing acc with
  | nil => exact h
  | cons y rest ih =>
    simp only [extendLazy]
    cases hy : validate E f y with
    | error e => exact h
    | ok v => exact ih _ (allOk_append h (allOk_cons ⟨y, hy⟩ allOk_nil))

/-- **The invariant holds after every operation, acceptable or not** (including a half-finished `extend`): a typed list only
    ever holds results of its item field's validation. -/
theorem list_inv (E : Env) (f : FieldSpec) (xs : List Val) (op : LOp) (hx : AllOk E f xs) (ho : OpOk E f op) : AllOk E f (lstep E f xs op).1 := by
  cases op with
  | append v =>
    simp only [lstep.eq_def]
    cases hv : validate E f v with
    | error e => exact hx
    | ok v' => exact allOk_append hx (allOk_cons ⟨v, hv⟩ allOk_nil)
  | insert i v =>
    simp only [lstep.eq_def]
    cases hv : validate E f v with
    | error e => exact hx
    | ok v' => exact allOk_of_subset (allOk_cons ⟨v, hv⟩ hx) fun _ => mem_insertAt
  | extend it | iadd it =>
    cases it with
    | sameProxy ys => exact allOk_append hx ho
    | plain ys =>
      have h := extendLazy_all_ok E f ys xs hx
      simp only [lstep.eq_def]
      generalize extendLazy E f xs ys = r at h
      rcases r with ⟨zs, _ | e⟩ <;> exact h
  | setIdx i v =>
    simp only [lstep.eq_def]
    cases resolveIdx xs.length i with
    | none => exact hx
    | some p =>
      cases hv : validate E f v with
      | error e => exact hx
      | ok v' => exact allOk_of_subset (allOk_cons ⟨v, hv⟩ hx) fun _ => mem_setAt
  | setSlice a b st it =>
    simp only [lstep.eq_def]
    cases hm : mapR (validate E f) (itemsOf it) with
    | error e => exact hx
    | ok vs =>
      have hvs : AllOk E f vs := fun v hv => let ⟨u, _, hu⟩ := mapR_results hm v hv; ⟨u, hu⟩
      have hall := allOk_append hx hvs
      have hplain : AllOk E f (setSlice xs a b vs) := allOk_of_subset hall fun _ => mem_setSlice
      cases st with
      | none => exact hplain
      | some s =>
        simp only
        split
        · exact hplain
        · cases he : setExtSlice xs a b s vs with
          | error e => exact hx
          | ok ys => exact allOk_of_subset hall fun _ => mem_setExtSlice he
  | pop _ | remove _ | delIdx _ =>
    simp only [lstep.eq_def]
    split
    · exact allOk_of_subset hx fun _ => mem_removeAt
    · exact hx
  | reverse => exact allOk_of_subset hx fun _ => List.mem_reverse.1
  | clear => exact allOk_nil
  | imul k =>
    intro x hm
    simp only [lstep.eq_def, List.mem_flatten, List.mem_replicate] at hm
    obtain ⟨l, ⟨_, rfl⟩, hxl⟩ := hm
    exact hx x hxl

/-- **…along whole histories.** -/
theorem list_run_inv (E : Env) (f : FieldSpec) : ∀ (ops : List LOp) (xs : List Val), AllOk E f xs → (∀ op ∈ ops, OpOk E f op) →
    AllOk E f (ops.foldl (fun s op => (lstep E f s op).1) xs) :=
  fun ops _ h ho => List.foldlRecOn ops _ h fun s hs op hm => list_inv E f s op hs (ho op hm)

/-- Only `extend` and `+=` over a plain iterable store while they validate: a rejection by any other operation comes before
    anything is stored. In each branch of `lstep` either the list is returned as it is or the answer is not `rejected`. -/
theorem lstep_rejected_unchanged {E : Env} {f : FieldSpec} {xs : List Val} {op : LOp} {e : Field.Err}
    (hop : ∀ ys, op ≠ .extend (.plain ys) ∧ op ≠ .iadd (.plain ys))
    (h : (lstep E f xs op).2 = .rejected e) : (lstep E f xs op).1 = xs := by
  cases op with
  | extend it =>
    cases it with
    | plain ys => exact absurd rfl (hop ys).1
    | sameProxy ys => cases h
  | iadd it =>
    cases it with
    | plain ys => exact absurd rfl (hop ys).2
    | sameProxy ys => cases h
  | _ =>
    revert h
    simp only [lstep.eq_def]
    repeat' split
    all_goals intro h; first | rfl | cases h

/-- **A rejected single-element insertion or replacement leaves the list exactly as it was** (C06 for typed lists):
    `append` and `insert` validate before they delegate to `list`; index assignment checks first that the index names an item
    (F76), then validates, then delegates. -/
theorem list_single_rejected_unchanged (E : Env) (f : FieldSpec) (xs : List Val) (op : LOp) (e : Field.Err)
    (hop : match op with | .append _ => True | .insert _ _ => True | .setIdx _ _ => True | _ => False)
    (h : (lstep E f xs op).2 = .rejected e) : (lstep E f xs op).1 = xs := by
  refine lstep_rejected_unchanged (fun ys => ⟨?_, ?_⟩) h <;> (rintro rfl; exact hop)

/-- **An index assignment whose index names no item is refused before the new item is looked at** (finding F76): the outcome is
    the built-in's `IndexError` and the list is unchanged *whatever* the offered item is — acceptable, unacceptable, or an object
    whose validation would have had effects of its own (a configuration object is linked to the list by being validated). -/
theorem list_setidx_no_slot (E : Env) (f : FieldSpec) (xs : List Val) (i : Int) (v : Val)
    (h : resolveIdx xs.length i = none) : lstep E f xs (.setIdx i v) = (xs, .err .index) := by
  simp only [lstep.eq_def, h]

/-- … and it is the same outcome for any two offered items: the item plays no part. -/
theorem list_setidx_no_slot_item_irrelevant (E : Env) (f : FieldSpec) (xs : List Val) (i : Int) (v w : Val)
    (h : resolveIdx xs.length i = none) : lstep E f xs (.setIdx i v) = lstep E f xs (.setIdx i w) := by
  rw [list_setidx_no_slot E f xs i v h, list_setidx_no_slot E f xs i w h]

/-- **The indices that name an item are exactly `-len … len-1`**: one past the end and one before the start name none (the two
    edges an "off by one" in the early index test would get wrong). -/
theorem resolveIdx_some_iff (len : Nat) (i : Int) : (resolveIdx len i).isSome = true ↔ (-(len : Int) ≤ i ∧ i < len) := by
  simp only [resolveIdx, Option.isSome_ite]
  split <;> omega

theorem resolveIdx_at_len (len : Nat) : resolveIdx len len = none ∧ resolveIdx len (-(len : Int) - 1) = none := by
  constructor <;> refine Option.not_isSome_iff_eq_none.1 fun h => ?_ <;> have := (resolveIdx_some_iff _ _).1 h <;> omega

/-- non-vacuity: index 5 names no item of a list of two -/
example : resolveIdx ([Val.int 1, Val.int 2] : List Val).length 5 = none := by decide

/-- **Items that come from this field's own validated list are taken over as they are** (the fast path behind `copy()`,
    `copy.copy` — F72 —, `+` and `+=` with a list of the same field): the result is the plain concatenation and does not depend on
    the item field at all — no item passes a validator again, so an item field whose normalisation is not idempotent (an
    application's unit conversion) or whose acceptance looks at the outside world (a file that must exist) cannot change or refuse
    what is already held.  `copy()` is the case `xs = []`. -/
theorem own_items_taken_as_they_are (E : Env) (f g : FieldSpec) (xs ys : List Val) :
    lstep E f xs (.extend (.sameProxy ys)) = (xs ++ ys, .none) ∧ lstep E f xs (.iadd (.sameProxy ys)) = (xs ++ ys, .none) ∧
    lstep E f xs (.extend (.sameProxy ys)) = lstep E g xs (.extend (.sameProxy ys)) :=
  ⟨rfl, rfl, rfl⟩

/-- **/repo's `ListProxy.__setitem__` is `lstep`'s index assignment, and a shallow copy by the `copy` module is `copy()`**
    (generated reading of the two proxy classes, regenerated on every run): a slice assignment validates every item and then
    delegates; an index assignment looks the index up (`super().__getitem__(index)`: the built-in's `IndexError` / `TypeError`),
    then validates, then delegates (F76); `__copy__` of both proxies hands the work to `copy()`, which builds a proxy from a
    compatible proxy — the fast path that takes the held items over as they are (F72). -/
theorem setitem_and_copy_code_order :
    Generated.containerShape.lookup "ListProxy.__setitem__" =
      some ["if[isinstance(index, slice)]", "super().__setitem__(index, [self._validate(i) for i in item])", "else",
            "super().__getitem__(index)", "super().__setitem__(index, self._validate(item))", "end"] ∧
    Generated.containerShape.lookup "ListProxy.__copy__" = some ["return self.copy()"] ∧
    Generated.containerShape.lookup "DictProxy.__copy__" = some ["return self.copy()"] ∧
    Generated.containerShape.lookup "ListProxy.copy" = some ["return ListProxy(self.cfg, self.list_field, self)"] ∧
    Generated.containerShape.lookup "DictProxy.copy" = some ["return DictProxy(self.cfg, self.dict_field, self)"] := ⟨rfl, rfl, rfl, rfl, rfl⟩

theorem setSeq_ok (E : Env) (kf vf : Option FieldSpec) : ∀ (kw ks d : List (Val × Val)), validateEntries E kf vf kw = .ok ks →
    setSeq E kf vf d kw = (setAll d ks, .none) := by
  intro kw
  induction kw with
  | nil => intro ks d h; cases h; rfl
  | cons p rest ih =>
    intro ks d h
    obtain ⟨⟨k', v'⟩, r, he, hr, rfl⟩ := validateEntries_cons_ok h
    simp only [setSeq, he, ih r _ hr]
    rfl

/-- **A typed dict refines the built-in dict**: with acceptable arguments every operation (item assignment, `update` in all
    call forms, `setdefault`, `|=`, `pop`, `popitem`, deletion, `clear`) has the effect and the result of the same operation on
    a plain dict handed the normalised keys and values. -/
theorem dict_refines (E : Env) (kf vf : Option FieldSpec) (d : List (Val × Val)) (op op' : DOp) (h : normDOp E kf vf op = some op') :
    dstep E kf vf d op = bdstep d op' := by
  cases op with
  | set k v =>
    obtain ⟨⟨k', v'⟩, he, rfl⟩ := toOption_map_eq_some.1 h
    simp only [dstep.eq_def, he]
    rfl
  | update pairs compat kw =>
    rw [dstep_update]
    simp only [normDOp.eq_def] at h
    split at h
    · rename_i ps ks hps hks
      cases h
      simp only [hps, setSeq_ok E kf vf kw ks _ hks]
      rfl
    · cases h
  | setdefault k v =>
    obtain ⟨⟨k', v'⟩, he, rfl⟩ := toOption_map_eq_some.1 h
    simp only [dstep.eq_def, bdstep.eq_def, he, presentUnder_of_ok d he, Option.getD_some]
    cases dictLookup k' d <;> rfl
  | ior pairs =>
    obtain ⟨ps, hps, rfl⟩ := toOption_map_eq_some.1 h
    rw [dstep_ior, hps]
    rfl
  | pop _ _ | popitem | del _ | clear => cases h; rfl

/-- Outside `update` (whose keywords are stored one by one) a rejection comes before anything is stored: in each branch of
    `dstep` either the dict is returned as it is or the answer is not `rejected`. -/
theorem dstep_rejected_unchanged {E : Env} {kf vf : Option FieldSpec} {d : List (Val × Val)} {op : DOp} {e : Val}
    (hop : ∀ pairs c kw, op ≠ .update pairs c kw) (h : (dstep E kf vf d op).2 = .rejected e) : (dstep E kf vf d op).1 = d := by
  cases op with
  | update pairs c kw => exact absurd rfl (hop pairs c kw)
  | _ =>
    revert h
    simp only [dstep.eq_def]
    repeat' split
    all_goals intro h; first | rfl | cases h

/-- **A rejected single item assignment or `setdefault` leaves the dict exactly as it was** (C06 for typed dicts).
    `C17b.dict_single_rejected_unchanged` is the same statement with `|=` admitted as well. -/
theorem dict_single_rejected_unchanged (E : Env) (kf vf : Option FieldSpec) (d : List (Val × Val)) (op : DOp) (key : Val)
    (hop : match op with | .set _ _ => True | .setdefault _ _ => True | _ => False)
    (h : (dstep E kf vf d op).2 = .rejected key) : (dstep E kf vf d op).1 = d := by
  refine dstep_rejected_unchanged (fun pairs c kw => ?_) h
  rintro rfl
  exact hop

/-- an environment with nothing outside (no file exists, no URL is valid, no float parses) in which every custom validator
    accepts: for the witnesses here and in `Props/C17b.lean` -/
def env0 : Env where
  parseFloat := fun _ => none
  fsKind := fun _ => .absent
  isabs := fun _ => false
  resolve := fun _ t => t
  urlOk := fun _ => false
  salt := fun _ => []
  hash := fun _ b => b
  utf8 := fun _ => []
  custom := fun _ v => .ok v

/-- Non-vacuity: an int list whose items are validation results; a normalising append ("7" becomes 7). -/
example : AllOk env0 (.mk (.int none none) false none) [.int 1, .int 2] :=
  allOk_cons ⟨.int 1, rfl⟩ (allOk_cons ⟨.int 2, rfl⟩ allOk_nil)
example : (lstep env0 (.mk (.int none none) false none) [.int 1] (.append (.str ['7']))).1 = [.int 1, .int 7] := by decide +kernel

end Cinco.C17
