import Cinco.Proofs.Roundtrip
import Cinco.Proofs.RoundtripLeaf
import Cinco.Config.Doc
/-
  C02 — saving and re-loading a configuration reproduces it, up to the normalisations named at `tree_roundtrip`.
  The round trip is `roundtrip_into(_validating)` of Cinco/Proofs/Roundtrip.lean (induction on the nesting depth) applied to a
  freshly built configuration; what `to_tree` writes is read off `mem_toTree` (Cinco/Proofs/ToTree.lean); the per-leaf codec
  premise is discharged, and the tree shown to be plain data, in Cinco/Proofs/RoundtripLeaf.lean.
-/
namespace Cinco.C02
open Cinco Cinco.Field Cinco.Config

/-- the tree round trip without validation on load (`load_tree(validate=False)`), for any state whose nested configurations
    validate; the premises are explained at `tree_roundtrip` -/
theorem tree_roundtrip_novalidate (W : World) (fuel : Nat) (s : Schema) (c : Cfg) (t : List (Val × Val)) (c0 : Cfg) (n0 n1 : Nat)
    (hnd : s.keysNodup = true) (hsr : SchemaLoadable W fuel s) (hsh : Shaped fuel s c) (hco : CodecOkAll W fuel s c)
    (hst : StableAll W fuel s c) (hvd : ValidDeep W fuel s c)
    (ht : toTree W fuel s c false none = some t) (hb : build W "" false none s n0 = .ok (c0, n1)) :
    (loadTree W fuel s "" c0 t false n1).err = none ∧
    SameValues W fuel s c (loadTree W fuel s "" c0 t false n1).cfg :=
  roundtrip_into W fuel s c t "" c0 n1 hnd (schemaReady_of_build W fuel s _ _ _ _ _ _ hb hsr) hsh hco hst hvd ht
    (build_onlyStored W "" false none s n0 c0 n1 hnd hb)

/-- **Tree round trip.**  For every schema with distinct keys and every configuration `c` of it, at any nesting depth
    (sub-configurations, config types, lists of configurations, dynamically added fields): if `c` validates, `to_tree`
    returns `t`, and `c0` is a fresh configuration of the same schema, then `load_tree(t)` with validation does not fail and
    the result holds the same value as `c` under every persistent field at every depth — up to exactly the allowed
    normalisations (an unset typed list / dict comes back empty, an empty secret comes back unset, an unset list of
    configurations comes back empty) — the same dynamically added values, and nothing else.
    Premises: `SchemaLoadable` (no field is bound to a set environment variable — `load_tree` skips those — and item schemas
    can be instantiated), `Shaped` (each declared storing field has a slot of its shape; no extra fields unless the schema is
    dynamic), `CodecOkAll` (each leaf's stored form decodes to the held value: the field-level law of C05/C08/C09),
    `StableAll` (automatic without custom validators), `ValidDeep` (nested configurations validate). -/
theorem tree_roundtrip (W : World) (fuel : Nat) (s : Schema) (c : Cfg) (t : List (Val × Val)) (c0 : Cfg) (n0 n1 : Nat)
    (hnd : s.keysNodup = true) (hsr : SchemaLoadable W fuel s) (hsh : Shaped fuel s c) (hco : CodecOkAll W fuel s c)
    (hst : StableAll W fuel s c) (hvd : ValidDeep W fuel s c) (hv : ∃ p, validateCfg W (fuel + 1) s p c = none)
    (ht : toTree W fuel s c false none = some t) (hb : build W "" false none s n0 = .ok (c0, n1)) :
    (loadTree W fuel s "" c0 t true n1).err = none ∧
    SameValues W fuel s c (loadTree W fuel s "" c0 t true n1).cfg :=
  roundtrip_into_validating W fuel s c t "" c0 n1 hnd (schemaReady_of_build W fuel s _ _ _ _ _ _ hb hsr) hsh hco hst hvd hv ht
    (build_onlyStored W "" false none s n0 c0 n1 hnd hb)

/-- **Document round trip, in every format.**  `Config.dumps` then `Config.loads` into a fresh configuration: for any
    format that gives the tree back (`LawOn`: the format-level law of C04), saving succeeds, loading succeeds, and the
    reloaded configuration holds the same values. -/
theorem doc_roundtrip (W : World) (fuel : Nat) (s : Schema) (c : Cfg) (c0 : Cfg) (n0 n1 : Nat) (F : DocFormat)
    (hnd : s.keysNodup = true) (hsr : SchemaLoadable W fuel s) (hsh : Shaped fuel s c) (hco : CodecOkAll W fuel s c)
    (hst : StableAll W fuel s c) (hvd : ValidDeep W fuel s c) (hv : ∃ p, validateCfg W (fuel + 1) s p c = none)
    (t : List (Val × Val)) (ht : toTree W fuel s c false none = some t) (hF : F.LawOn t)
    (hb : build W "" false none s n0 = .ok (c0, n1)) :
    ∃ doc out, dumpsCfg W fuel s c F = some doc ∧ loadsCfg W fuel s c0 F doc n1 = some out ∧
      out.err = none ∧ SameValues W fuel s c out.cfg := by
  obtain ⟨b, hd, hl⟩ := hF
  refine ⟨b, loadTree W fuel s "" c0 t true n1, ?_, ?_, ?_⟩
  · simp [dumpsCfg, ht, hd]
  · simp [loadsCfg, hl]
  · exact tree_roundtrip W fuel s c t c0 n0 n1 hnd hsr hsh hco hst hvd hv ht hb

/-- two formats that both give the tree back reload to configurations holding the same values as the saved one (so the
    choice of format is unobservable after a reload) -/
theorem formats_interchangeable (W : World) (fuel : Nat) (s : Schema) (c : Cfg) (c0 : Cfg) (n0 n1 : Nat) (F G : DocFormat)
    (hnd : s.keysNodup = true) (hsr : SchemaLoadable W fuel s) (hsh : Shaped fuel s c) (hco : CodecOkAll W fuel s c)
    (hst : StableAll W fuel s c) (hvd : ValidDeep W fuel s c) (hv : ∃ p, validateCfg W (fuel + 1) s p c = none)
    (t : List (Val × Val)) (ht : toTree W fuel s c false none = some t) (hF : F.LawOn t) (hG : G.LawOn t)
    (hb : build W "" false none s n0 = .ok (c0, n1)) :
    ∃ d1 d2 o, dumpsCfg W fuel s c F = some d1 ∧ dumpsCfg W fuel s c G = some d2 ∧
      loadsCfg W fuel s c0 F d1 n1 = some o ∧ loadsCfg W fuel s c0 G d2 n1 = some o := by
  obtain ⟨b1, hd1, hl1⟩ := hF
  obtain ⟨b2, hd2, hl2⟩ := hG
  exact ⟨b1, b2, loadTree W fuel s "" c0 t true n1, by simp [dumpsCfg, ht, hd1], by simp [dumpsCfg, ht, hd2],
    by simp [loadsCfg, hl1], by simp [loadsCfg, hl2]⟩

/-- what "the same values" gives for one declared leaf: the reloaded value is the saved one, or one of the named normalisations -/
theorem reloaded_leaf {W : World} {d : Nat} {s : Schema} {c c' : Cfg} (h : SameValues W (d + 1) s c c')
    {k : String} {fs : FieldSpec} {m : LeafMeta} (hk : s.get k = some (.leaf fs m)) :
    ∃ v v', c.get k = some (.val v) ∧ c'.get k = some (.val v') ∧
      (v' = v ∨ (v = .none ∧ v' = .list [] ∧ ∃ it, fs.kind = .list it) ∨
       (v = .none ∧ v' = .dict [] ∧ ∃ kf vf, fs.kind = .dict kf vf) ∨
       (v = .str [] ∧ v' = .none ∧ ∃ m, fs.kind = .secure m)) :=
  slotSame_leaf_inv ((sameValues_succ_iff.1 h).2 k _ hk)

/-- **The tree is plain data**: strings, numbers, booleans, null, lists and string-keyed maps only — for every configuration
    whose leaf declarations are typed (no AnyField / untyped container / custom validator, dict keys required and string-like)
    and whose leaves hold validation results, at every depth; dynamically added fields must hold plain data themselves. -/
theorem tree_is_plain (W : World) (hE : ∀ m s r, W.fe.encryptS m s = some r → r.plain = true)
    (fuel : Nat) (s : Schema) (c : Cfg) (t : List (Val × Val))
    (hnd : s.keysNodup = true) (hsh : Shaped fuel s c) (hl : AllLeaves (PlainLeaf W.fe) fuel s c)
    (hdyn : AllCfgs DynPlain fuel s c) (ht : toTree W fuel s c false none = some t) :
    (Val.dict t).plain = true :=
  toTree_plain W hE fuel s c t hnd hsh hl hdyn ht

/-- **No virtual or instance-method field is written** unless virtual output is asked for (no premises at all) … -/
theorem tree_has_no_computed_field (W : World) (fuel : Nat) (s : Schema) (c : Cfg) (mask : Option Str) (t : List (Val × Val))
    (h : toTree W fuel s c false mask = some t) :
    ∀ kv ∈ t, ∃ n : String, kv.1 = .str n.toList ∧
      ((∃ f, (n, f) ∈ s.fields ∧ f.stores = true) ∨ (n ∈ c.dyn ∧ s.get n = none)) := by
  obtain ⟨d, _, _, hmem⟩ := mem_toTree h
  intro kv hkv
  rcases (hmem kv).1 hkv with ⟨k, f, v, hm, hr, rfl⟩ | ⟨k, hk, he⟩
  · exact ⟨k, rfl, Or.inl ⟨f, hm, renderField_stores hr⟩⟩
  · obtain ⟨hn, v, _, rfl⟩ := dynEntry_some he
    exact ⟨k, rfl, Or.inr ⟨hk, hn⟩⟩

/-- … and with virtual output every virtual field is written -/
theorem tree_virtual_when_asked (W : World) (fuel : Nat) (s : Schema) (c : Cfg) (mask : Option Str) (t : List (Val × Val))
    (h : toTree W fuel s c true mask = some t) (n : String) (cst : Val) (hs : Bool)
    (hm : (n, SField.virtual cst hs) ∈ s.fields) : (Val.str n.toList, cst) ∈ t := by
  obtain ⟨d, _, _, hmem⟩ := mem_toTree h
  exact (hmem _).2 (Or.inl ⟨n, _, cst, hm, by simp [renderField], rfl⟩)

/-- **Round trip for the supported field kinds, with the codec premise proved**: every leaf declaration is `Supported`
    (all built-in kinds; typed lists and dicts of them, nested; custom validators anywhere except on a typed container
    itself), every held leaf is a fixed point of its field's validation and `TopCanon` (a digest carries the field's own
    algorithm — else finding F23; no `None` / empty secret nested inside a typed container; no tuple under an untyped list), and
    the encryption environment decrypts what it encrypted (`hS`, proved for the cipher models in C08) and reads null as unset
    (`hN`). -/
theorem tree_roundtrip_supported (W : World)
    (hS : ∀ m s r, s ≠ [] → W.fe.encryptS m s = some r → W.fe.decryptS r = some (some s))
    (hN : W.fe.decryptS .none = some none)
    (fuel : Nat) (s : Schema) (c : Cfg) (t : List (Val × Val)) (c0 : Cfg) (n0 n1 : Nat)
    (hnd : s.keysNodup = true) (hsr : SchemaLoadable W fuel s) (hsh : Shaped fuel s c)
    (hsup : SchemaLeaves (fun fs => Supported fs = true) fuel s) (hheld : AllLeaves (HeldOk W) fuel s c)
    (hst : StableAll W fuel s c) (hvd : ValidDeep W fuel s c) (hv : ∃ p, validateCfg W (fuel + 1) s p c = none)
    (ht : toTree W fuel s c false none = some t) (hb : build W "" false none s n0 = .ok (c0, n1)) :
    (loadTree W fuel s "" c0 t true n1).err = none ∧
    SameValues W fuel s c (loadTree W fuel s "" c0 t true n1).cfg :=
  tree_roundtrip W fuel s c t c0 n0 n1 hnd hsr hsh (codecOkAll_of_supported W hS hN fuel s c hsup hheld) hst hvd hv ht hb

/-- the conditions on held values are needed — each of these is accepted by its field and does not come back: a digest of a
    foreign algorithm (finding F23), and a tuple under an untyped list field (a tuple is not representable) -/
theorem held_conditions_needed :
    (validate lfWorld.fe.toEnv (.mk (.challenge "md5") false none) (.digest [] [] "sha1") = .ok (.digest [] [] "sha1") ∧
      ¬ CodecOk lfWorld (.mk (.challenge "md5") false none) (.digest [] [] "sha1")) ∧
    (validate lfWorld.fe.toEnv (.mk (.list none) false none) (.tuple [.int 1]) = .ok (.tuple [.int 1]) ∧
      ¬ CodecOk lfWorld (.mk (.list none) false none) (.tuple [.int 1])) :=
  ⟨codecOk_false_foreign_digest, codecOk_false_tuple⟩

/-- a dict key field that is not required accepts the key `None` and writes it as it is: a map that is not string-keyed
    (the defect of finding F34, which is reported for key fields of a kind that is not text) -/
theorem plain_needs_string_keys :
    let fs : FieldSpec := .mk (.dict (some (.mk (.string {}) false none)) (some (.mk (.int none none) false none))) false none
    validate lfWorld.fe.toEnv fs (.dict [(.none, .int 1)]) = .ok (.dict [(.none, .int 1)]) ∧
    toBasic lfWorld.fe fs (.dict [(.none, .int 1)]) = .ok (.dict [(.none, .int 1)]) ∧
    (Val.dict [(.none, .int 1)]).plain = false :=
  ⟨rfl, rfl, rfl⟩

/-- non-vacuity of the discharged premises: a stripped required string, base64 bytes, a list of ints, a sub-configuration
    with a flag and a secret, a virtual field -/
theorem example_leaves :
    toTree lfWorld 2 lfSchema lfCfg false none = some lfTree ∧ (Val.dict lfTree).plain = true ∧
    CodecOkAll lfWorld 2 lfSchema lfCfg :=
  ⟨lf_toTree,
   tree_is_plain lfWorld lfWorld_plain 2 lfSchema lfCfg lfTree (by decide) lf_shaped lf_plainLeaves lf_dynPlain lf_toTree,
   codecOkAll_of_supported lfWorld lfWorld_dec_enc lfWorld_dec_none 2 lfSchema lfCfg lf_supported lf_heldOk⟩

/-- the keys of the example tree, by `tree_has_no_computed_field`: none of them is the virtual field -/
example : ∀ kv ∈ lfTree, kv.1 ≠ .str "v".toList := by
  intro kv hkv
  obtain ⟨n, hn, h⟩ := tree_has_no_computed_field lfWorld 2 lfSchema lfCfg none lfTree lf_toTree kv hkv
  rcases h with ⟨f, hf, hst⟩ | ⟨hd, _⟩
  · intro he
    rw [hn] at he
    cases String.toList_inj.1 (Val.str.inj he)
    simp [lfSchema, Schema.fields] at hf
    subst hf
    cases hst
  · cases hd

/-- custom validators aside, the `StableAll` premise is automatic -/
theorem stable_automatic (W : World) (d : Nat) (s : Schema) (c : Cfg)
    (h : SchemaLeaves (fun fs => fs.custom = none) d s) : StableAll W d s c :=
  allLeaves_imp (fun fs v hq _ => leafStable_of_custom_none W fs v hq) d s c h (allLeaves_true d s c)

/-- **Non-vacuity**: all premises hold together on a schema with a plain leaf, an unset typed list (reloaded as `[]`), a dynamic
    sub-configuration with a dynamically added field, a list of configurations and a virtual field. -/
theorem example_roundtrip : ∃ t c0 n1, toTree rtWorld 2 rtSchema rtCfg false none = some t ∧
    build rtWorld "" false none rtSchema 0 = .ok (c0, n1) ∧
    (loadTree rtWorld 2 rtSchema "" c0 t true n1).err = none ∧
    SameValues rtWorld 2 rtSchema rtCfg (loadTree rtWorld 2 rtSchema "" c0 t true n1).cfg := by
  obtain ⟨t, ht⟩ := rt_toTree
  obtain ⟨c0, n1, hb⟩ := rt_build
  exact ⟨t, c0, n1, ht, hb, tree_roundtrip rtWorld 2 rtSchema rtCfg t c0 0 n1 (by decide) rt_schemaLoadable rt_shaped rt_codecOk
    rt_stable rt_validDeep rt_valid ht hb⟩

end Cinco.C02
