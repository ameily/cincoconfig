import Cinco.Proofs.Xml
import Cinco.Format.Yaml
/-
  C04 — each file format decodes what it encodes, types intact, and all formats agree.
  Proved here: the XML element codec (the library's own logic), the XML root-tag check, the YAML root-key
  wrapper, the registry built from the generated FORMATS table.  The text layers (json, PyYAML, bson,
  pickle, ElementTree+minidom+expat) are third-party code: they enter as the hypothesis `Codec.Law`.
-/
namespace Cinco.C04
open Cinco Cinco.Xml Cinco.Str

/-- **Generated obligation.** The Bool token tables extracted from the source make `"true"`/`"false"`
    decode to the right booleans (re-checked by `decide` against whatever the source says on every run). -/
theorem tables_ok : TablesOk := by unfold TablesOk; decide +kernel

/-- **XML element codec is inverse on all trees**: bool / int / float / str / null are kept apart, `""` stays a
    string, `[]`, `{}` and null stay distinct, nesting and key sets are preserved — for every tree satisfying the
    dict invariant and every tag. -/
theorem xml_codec (ft : FloatText) (hft : ft.Lawful) (k : String) (t : Tree) (hwf : t.wf = true) :
    fromElement ft none (toElement ft k t) = t :=
  codec ft hft tables_ok k t hwf

/-- Distinct trees never share an encoding (types are kept apart). -/
theorem xml_injective (ft : FloatText) (hft : ft.Lawful) (k : String) (a b : Tree)
    (ha : a.wf = true) (hb : b.wf = true) (h : toElement ft k a = toElement ft k b) : a = b := by
  rw [← xml_codec ft hft k a ha, ← xml_codec ft hft k b hb, h]

/-- `loads ∘ dumps = id` at the element level, for every root tag. -/
theorem xml_root_indep (ft : FloatText) (hft : ft.Lawful) (r : String) (t : Kvs) (hwf : (Tree.dict t).wf = true) :
    loadsElem ft r (dumpsElem ft r t) = some (.dict t) := by
  rw [loadsElem, dumpsElem, toElement_tag, bne_self_eq_false, if_neg Bool.false_ne_true]
  -- forcing the type "dict" on an element that carries it already changes nothing (by evaluation)
  exact congrArg some (xml_codec ft hft r (.dict t) hwf)

/-- A document whose root tag is not the configured one is rejected. -/
theorem xml_root_wrong (ft : FloatText) (r r' : String) (t : Kvs) (h : r ≠ r') :
    loadsElem ft r' (dumpsElem ft r t) = none := by
  simp [loadsElem, dumpsElem, toElement, Elem.tag, h]

/-- **YAML root key**: unwrapping what was wrapped gives the tree back, for every root key
    (unset, empty, or any name — also when the tree itself contains that name as a key). -/
theorem yaml_root (rk : Option String) (t : Kvs) : Yaml.unwrap rk (Yaml.wrap rk t) = .dict t := by
  cases rk with
  | none => rfl
  | some k =>
    by_cases h : k.isEmpty
    · simp [Yaml.wrap, Yaml.unwrap, h]
    · simp [Yaml.wrap, Yaml.unwrap, h, Kvs.lookup]

/-- The registry as `ConfigFormat.initialize_registry` builds it from `FORMATS`. -/
def registry : List (String × String) :=
  Generated.formats.foldl (fun r (nc : String × String) => (r.filter (fun e => e.1 != nc.1)) ++ [nc]) []

/-- **Generated obligation.** Every name in the generated `FORMATS` table resolves to the class registered under it
    (no name is registered twice with different classes) and all five built-in formats are present. -/
theorem registry_resolves :
    (∀ nc ∈ Generated.formats, registry.lookup nc.1 = some nc.2) ∧
    ["json", "pickle", "xml", "yaml", "bson"].all (fun n => (registry.lookup n).isSome) = true := by decide +kernel

/-- An abstract text-level codec with its domain. -/
structure Codec where
  enc : Tree → Option (List UInt8)
  dec : List UInt8 → Option Tree
  dom : Tree → Prop

/-- "decoding what was encoded yields an equal tree" on the format's domain -/
def Codec.Law (c : Codec) : Prop := ∀ t, c.dom t → ∃ b, c.enc t = some b ∧ c.dec b = some t

/-- Every lawful format maps the same tree back to the same tree. -/
theorem formats_agree (a b : Codec) (ha : a.Law) (hb : b.Law) (t : Tree) (hda : a.dom t) (hdb : b.dom t) :
    (a.enc t).bind a.dec = (b.enc t).bind b.dec := by
  obtain ⟨x, hx1, hx2⟩ := ha t hda
  obtain ⟨y, hy1, hy2⟩ := hb t hdb
  simp [hx1, hx2, hy1, hy2]

/-- Non-vacuity: a tree with every confusable scalar, empty containers below the root and the keys `item`/`type`. -/
example :
    (Tree.dict [("a", .bool true), ("b", .int 1), ("c", .str ['1']), ("d", .str []), ("e", .null),
                ("item", .list []), ("type", .dict []), ("f", .list [.dict [("x", .flt (.dy 1 0))], .int (-5)])]).wf = true := by
  decide +kernel

end Cinco.C04
