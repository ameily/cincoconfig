import Cinco.Props.C12
import Cinco.Proofs.Inv
import Cinco.Proofs.ValueSpec
import Cinco.Generated.SupportShape
/-
  C12b — the two statements of C12 that are not per-step:
  (1) a freshly built configuration *as a whole*: every declared storing field is present, holds what its own
      `__setdefault__` computes (the declared default for plain leaves) and is reported as not user-defined, at every depth
      (`build_all_default`, `AllDefault`, `build_all_default_deep`);
  (2) whole histories: over every finite sequence of assignments (accepted and rejected), tree loads and resets on the
      leaf keys of one configuration, the user-defined status of every key is what an abstract set machine computes
      (`step_refines`, `run_refines`, `defined_refines`), with the corollaries `rejected_ops_invisible`,
      `reset_after_anything`, `fresh_then_history`.  The refinement is read off one equation, `applyOp_state`: on declared
      leaf keys the model's step is `stepCfg`, a composition of `setUser` / `setDefault` that the world and the schema
      determine (for loads: `ValueSpec.loadTree_leaves`); C14b reads the values off the same equation.
-/
namespace Cinco.C12b
open Cinco Cinco.Field Cinco.Config Cinco.Config.Defined Cinco.Config.ValueSpec

/-- **`Config(schema)`: which keys are reported as not user-defined** — exactly the keys of the storing fields
    (no hypothesis on the schema: duplicate keys included). -/
theorem build_defined_exact (W : World) (path : String) (linked : Bool) (keyfile : Option String) (s : Schema) (n : Nat)
    (c : Cfg) (n' : Nat) (h : build W path linked keyfile s n = .ok (c, n')) (k : String) :
    C12.defined c k = !storesKey k s.fields := by
  rw [build_eq] at h
  simp only [C12.defined]
  rw [(buildFields_marks k h).1]
  simp [Cfg.defaults]

/-- **A freshly built configuration exposes every field and reports it as not user-defined; a plain leaf without an
    environment binding holds its declared default.**

    The first two conclusions hold for every schema.  The value needs the keys of this level to be distinct
    (`nodupKeys s.fields`, decidable; `Schema.get` reads the *first* declaration of a key while `build` runs every
    `__setdefault__` in order, so with a duplicate key the slot holds the *last* default — see `dup_value_differs` below).
    Side conditions of the value as in `C12.setDefault_plain_value`. -/
theorem build_all_default (W : World) (path : String) (linked : Bool) (keyfile : Option String) (s : Schema) (n : Nat)
    (c : Cfg) (n' : Nat) (h : build W path linked keyfile s n = .ok (c, n'))
    (k : String) (f : SField) (hf : s.get k = some f) (hstore : C12.stores f = true) :
    C12.defined c k = false ∧ (c.get k).isSome = true ∧
    (nodupKeys s.fields = true → ∀ fs m, f = .leaf fs m →
      (match fs.kind with | .list _ => False | .dict _ _ => False | .challenge _ => False | _ => True) →
      m.env = none → c.get k = some (.val m.default.value)) := by
  rw [C12.stores_eq] at hstore
  have hsk : storesKey k s.fields = true := storesKey_of_lookup hf hstore
  refine ⟨by rw [build_defined_exact W path linked keyfile s n c n' h, hsk]; rfl, ?_, ?_⟩
  · rw [build_eq] at h
    rw [(buildFields_marks k h).2, hsk, Bool.or_true]
  · intro hnd fs m hfe hk henv
    subst hfe
    rw [build_eq] at h
    obtain ⟨v, hv, hget⟩ := buildFields_get_leaf hnd h hf
    rw [leafDefault_plain W path k fs m hk (envValue_of_env_none W m henv)] at hv
    cases hv
    exact hget

/-- what a fresh configuration holds for one declared field: the value its `__setdefault__` computes for a leaf
    (`leafDefault`: the declared default unless the environment or the field class says otherwise), a fresh
    sub-configuration satisfying `P` for a nested schema / configuration type, an empty list (or unset) for a list of
    configurations — such lists start empty, so there is nothing below them to describe -/
def SlotDefault (W : World) (path k : String) (P : String → Schema → Cfg → Prop) : SField → Option Slot → Prop
  | .leaf fs m, sl => ∃ v, leafDefault W path k fs m = .ok v ∧ sl = some (.val v)
  | .sub s', sl => ∃ sub, sl = some (.node sub) ∧ P (joinPath path k) s' sub
  | .ctype s' _, sl => ∃ sub, sl = some (.node sub) ∧ P (joinPath path k) s' sub
  | .cfgList _ _ _ m, sl => (m.default.value = .list [] ∧ sl = some (.nodes [])) ∨ (m.default.value = .none ∧ sl = some (.val .none))
  | .virtual _ _, _ => True
  | .method, _ => True

/-- the configuration at `path`, and every sub-configuration below it to depth `d`, is in its freshly built state: every
    storing key is marked not user-defined and holds its default slot (the recursion follows `build`: `.sub` / `.ctype`) -/
def AllDefault (W : World) : Nat → String → Schema → Cfg → Prop
  | 0, _, _, _ => True
  | d + 1, path, s, c => ∀ k f, s.get k = some f → C12.stores f = true →
      C12.defined c k = false ∧ SlotDefault W path k (AllDefault W d) f (c.get k)

/-- **Freshly built, at every depth**: for a schema whose keys are distinct at every level (`Schema.keysNodup`, the
    decidable hypothesis of `inv_build`; satisfiable: `Demo.schema_nodup` below), `Config(schema)` is `AllDefault` to every
    depth `d`.  Lists of configurations start empty (or unset), so that case has no sub-configuration to recurse into. -/
theorem build_all_default_deep (W : World) : ∀ (d : Nat) (path : String) (linked : Bool) (keyfile : Option String)
    (s : Schema) (n : Nat) (c : Cfg) (n' : Nat),
    s.keysNodup = true → build W path linked keyfile s n = .ok (c, n') → AllDefault W d path s c := by
  intro d
  induction d with
  | zero => exact fun _ _ _ _ _ _ _ _ _ => trivial
  | succ d ih =>
    intro path linked keyfile s n c n' hnd h k f hf hstore
    refine ⟨(build_all_default W path linked keyfile s n c n' h k f hf hstore).1, ?_⟩
    have hsub := everyFields_lookup (every_iff.mp hnd).2 hf
    have hd := build_get (every_iff.mp hnd).1 h hf
    generalize c.get k = sl at hd ⊢
    cases hd with
    | leaf fs m v hv => exact ⟨v, hv, rfl⟩
    | built f s' kf n1 fresh n2 hf' hb =>
      cases f <;> cases hf'
      all_goals exact ⟨fresh, rfl, ih _ _ _ s' n1 fresh n2 hsub hb⟩
    | empty s' it req m hd => exact .inl ⟨hd, rfl⟩
    | unset s' it req m hd => exact .inr ⟨hd, rfl⟩
    | nothing f hf' => rw [C12.stores_eq, hf'] at hstore; cases hstore

/-- reading `AllDefault` at a plain leaf: the declared default (an unset or empty environment variable is enough) -/
theorem allDefault_plain_value {W : World} {d : Nat} {path : String} {s : Schema} {c : Cfg} (h : AllDefault W (d + 1) path s c)
    {k : String} {fs : FieldSpec} {m : LeafMeta} (hf : s.get k = some (.leaf fs m))
    (hk : match fs.kind with | .list _ => False | .dict _ _ => False | .challenge _ => False | _ => True)
    (henv : envValue W m = none) : C12.defined c k = false ∧ c.get k = some (.val m.default.value) := by
  obtain ⟨h1, v, hv, hg⟩ := h k _ hf rfl
  rw [leafDefault_plain W path k fs m hk henv] at hv
  cases hv
  exact ⟨h1, hg⟩

/-- one operation at the root (path `""`): the state at return or at the raise, and whether it raised -/
def applyOp (W : World) (fuel : Nat) (s : Schema) (cn : Cfg × Nat) : KeyOp → (Cfg × Nat) × Bool
  | .assign k v => let o := setValue W fuel s "" cn.1 k (.val v) cn.2; ((o.cfg, o.next), o.err.isSome)
  | .load tree dv => let o := loadTree W fuel s "" cn.1 tree dv cn.2; ((o.cfg, o.next), o.err.isSome)
  | .reset k => let o := resetValue W fuel s cn.1 k.toList cn.2; ((o.cfg, o.next), o.err.isSome)

/-- a history: every operation runs on the state the previous one left, raised or not -/
def runOps (W : World) (fuel : Nat) (s : Schema) (cn : Cfg × Nat) (ops : List KeyOp) : Cfg × Nat :=
  ops.foldl (fun cn op => (applyOp W fuel s cn op).1) cn

theorem runOps_append (W : World) (fuel : Nat) (s : Schema) (cn : Cfg × Nat) (l1 l2 : List KeyOp) :
    runOps W fuel s cn (l1 ++ l2) = runOps W fuel s (runOps W fuel s cn l1) l2 := List.foldl_append

theorem runOps_cons (W : World) (fuel : Nat) (s : Schema) (cn : Cfg × Nat) (op : KeyOp) (l : List KeyOp) :
    runOps W fuel s cn (op :: l) = runOps W fuel s (applyOp W fuel s cn op).1 l := List.foldl_cons ..

/-- which operations of the history raised -/
def raisedFlags (W : World) (fuel : Nat) (s : Schema) : Cfg × Nat → List KeyOp → List Bool
  | _, [] => []
  | cn, op :: rest => (applyOp W fuel s cn op).2 :: raisedFlags W fuel s (applyOp W fuel s cn op).1 rest

/-- the set of user-defined keys -/
abbrev DSet := String → Bool
def DSet.insert (D : DSet) (k : String) : DSet := fun k' => k' == k || D k'
def DSet.erase (D : DSet) (k : String) : DSet := fun k' => k' != k && D k'
def DSet.insertAll (D : DSet) (ks : List String) : DSet := fun k' => ks.contains k' || D k'

/-- **The specification**: an accepted assignment inserts its key, a rejected one changes nothing; an accepted reset erases
    its key, a rejected one changes nothing; a load inserts the keys it assigns (up to the first entry that raises; keys
    bound to a set environment variable are skipped).  A function of the world and the schema only — no configuration. -/
def specStep (W : World) (s : Schema) (D : DSet) : KeyOp → DSet
  | .assign k v => if assignAccepts W s k v then D.insert k else D
  | .load tree _ => D.insertAll (loadAssigned W s tree)
  | .reset k => if resetAccepts W s k then D.erase k else D

def specRun (W : World) (s : Schema) (D : DSet) (ops : List KeyOp) : DSet := ops.foldl (specStep W s) D

/-- what a run of `loadTree` over declared leaf keys (result `o`) did -/
structure LoadSpec (W : World) (fuel : Nat) (s : Schema) (c : Cfg) (tree : List (Val × Val)) (dv : Bool) (n : Nat) (o : Out) : Prop where
  defined : ∀ k, C12.defined o.cfg k = ((loadAssigned W s tree).contains k || C12.defined c k)
  frame : ∀ k, k ∉ loadAssigned W s tree → o.cfg.get k = c.get k
  holds : ∀ k, k ∈ loadAssigned W s tree → ∃ v, o.cfg.get k = some (.val v)
  next : o.next = n
  raised : loadStops W s tree = true → o.err.isSome = true
  complete : loadStops W s tree = false → o.err = if dv then validateCfg W (fuel + 2) s "" o.cfg else none

theorem defined_assignAll (k : String) (l : List (String × Val)) (c : Cfg) :
    C12.defined (assignAll c l) k = ((l.map (·.1)).contains k || C12.defined c k) := by
  induction l generalizing c with
  | nil => simp [assignAll]
  | cons p rest ih =>
    rw [assignAll, ih, defined_setUser]
    simp only [List.map_cons, List.contains_cons, Bool.or_assoc, Bool.or_comm, Bool.or_left_comm]

theorem loadTree_spec (W : World) (fuel : Nat) (s : Schema) (dv : Bool) (tree : List (Val × Val)) (c : Cfg) (n : Nat)
    (hok : OpOk s (.load tree dv)) : LoadSpec W fuel s c tree dv n (loadTree W (fuel + 1) s "" c tree dv n) := by
  obtain ⟨hc, hn, hr, hcomp⟩ := loadTree_leaves W fuel s dv tree c n hok
  refine ⟨fun k => ?_, fun k hk => ?_, fun k hk => ?_, hn, hr, fun h => by rw [hcomp h, hc]⟩
  · rw [hc, defined_assignAll, loadValues_keys]
  · rw [hc, get_assignAll, Slots.putAll_not_mem _ _ _ (by rw [loadValues_keys]; exact hk)]
  · obtain ⟨v, _, hv⟩ := Slots.putAll_mem (loadValues W s tree) c.get k (by rw [loadValues_keys]; exact hk)
    exact ⟨v, by rw [hc, get_assignAll, hv]⟩

theorem applyOp_assign (W : World) (fuel : Nat) (s : Schema) (cn : Cfg × Nat) (k : String) (v : Val)
    {fs : FieldSpec} {m : LeafMeta} (hf : s.get k = some (.leaf fs m)) :
    applyOp W (fuel + 1) s cn (.assign k v) =
      (match validate W.fe.toEnv fs v with
       | .ok v' => ((cn.1.setUser k (.val v'), cn.2), false)
       | .error _ => (cn, true)) := by
  simp only [applyOp, setValue_leaf W fuel s "" cn.1 k _ cn.2 hf, Arg.value]
  cases validate W.fe.toEnv fs v <;> rfl

theorem applyOp_reset (W : World) (fuel : Nat) (s : Schema) (cn : Cfg × Nat) (k : String)
    {fs : FieldSpec} {m : LeafMeta} (hk : '.' ∉ k.toList) (hf : s.get k = some (.leaf fs m)) :
    applyOp W (fuel + 1) s cn (.reset k) =
      (match leafDefault W "" k fs m with
       | .ok v => ((cn.1.setDefault k (.val v), cn.2), false)
       | .error _ => (cn, true)) := by
  simp only [applyOp, resetValue_leaf_eq W fuel s cn.1 k cn.2 hk hf]
  cases leafDefault W "" k fs m <;> rfl

/-- **The raise flag of an assignment / a reset is the one the specification predicts.** -/
theorem assign_raises_iff (W : World) (fuel : Nat) (s : Schema) (cn : Cfg × Nat) (k : String) (v : Val)
    (hop : OpOk s (.assign k v)) : (applyOp W (fuel + 1) s cn (.assign k v)).2 = !assignAccepts W s k v := by
  obtain ⟨fs, m, hf⟩ := isLeafKey_get hop
  rw [applyOp_assign W fuel s cn k v hf]
  simp only [assignAccepts, hf, leafOf]
  cases validate W.fe.toEnv fs v <;> rfl

theorem reset_raises_iff (W : World) (fuel : Nat) (s : Schema) (cn : Cfg × Nat) (k : String)
    (hop : OpOk s (.reset k)) : (applyOp W (fuel + 1) s cn (.reset k)).2 = !resetAccepts W s k := by
  obtain ⟨fs, m, hf⟩ := isLeafKey_get hop.1
  rw [applyOp_reset W fuel s cn k hop.2 hf]
  simp only [resetAccepts, hf, leafOf]
  cases leafDefault W "" k fs m <;> rfl

/-- a load raises exactly when an entry raises or (all entries done, `validate = true`) the final validation does -/
theorem load_raises_iff (W : World) (fuel : Nat) (s : Schema) (cn : Cfg × Nat) (tree : List (Val × Val)) (dv : Bool)
    (hop : OpOk s (.load tree dv)) :
    (applyOp W (fuel + 1) s cn (.load tree dv)).2 =
      (loadStops W s tree || (dv && (validateCfg W (fuel + 2) s "" (applyOp W (fuel + 1) s cn (.load tree dv)).1.1).isSome)) := by
  have h := loadTree_spec W fuel s dv tree cn.1 cn.2 hop
  simp only [applyOp]
  cases hs : loadStops W s tree with
  | true => simp [h.raised hs]
  | false => rw [h.complete hs]; cases dv <;> simp

/-- what an operation on declared leaf keys does to the configuration: nothing but `setUser` / `setDefault` of the values
    that the world and the schema determine (`C14b.assignStores`, `ValueSpec.loadValues`, `C14b.resetStores`; no fuel, no
    final validation, no identity drawn) -/
def stepCfg (W : World) (s : Schema) (c : Cfg) : KeyOp → Cfg
  | .assign k v => (match C14b.assignStores W s k v with | some v' => c.setUser k (.val v') | none => c)
  | .load tree _ => assignAll c (loadValues W s tree)
  | .reset k => (match C14b.resetStores W s k with | some d => c.setDefault k (.val d) | none => c)

/-- **The model's step on declared leaf keys is `stepCfg`**, and the identity counter stays: the status machine below and
    the value machine of C14b are both read off this equation. -/
theorem applyOp_state (W : World) (fuel : Nat) (s : Schema) (cn : Cfg × Nat) (op : KeyOp) (hop : OpOk s op) :
    (applyOp W (fuel + 1) s cn op).1 = (stepCfg W s cn.1 op, cn.2) := by
  cases op with
  | assign k v =>
    obtain ⟨fs, m, hf⟩ := isLeafKey_get hop
    rw [applyOp_assign W fuel s cn k v hf]
    simp only [stepCfg, C14b.assignStores, hf, leafOf, C14b.storedBy]
    cases validate W.fe.toEnv fs v <;> rfl
  | load tree dv =>
    have h := loadTree_leaves W fuel s dv tree cn.1 cn.2 hop
    exact Prod.ext h.1 h.2.1
  | reset k =>
    obtain ⟨fs, m, hf⟩ := isLeafKey_get hop.1
    rw [applyOp_reset W fuel s cn k hop.2 hf]
    simp only [stepCfg, C14b.resetStores, hf, leafOf, C14b.defaultOf]
    cases leafDefault W "" k fs m <;> rfl

/-- the specification is `stepCfg` read through `is_value_defined`: a key is inserted or erased exactly when something is stored -/
theorem defined_stepCfg (W : World) (s : Schema) (c : Cfg) (op : KeyOp) (k : String) :
    C12.defined (stepCfg W s c op) k = specStep W s (C12.defined c) op k := by
  cases op with
  | assign k0 v =>
    simp only [stepCfg, specStep, ← C14b.assignStores_isSome]
    cases C14b.assignStores W s k0 v with
    | none => rfl
    | some v' => simp only [defined_setUser, DSet.insert, Option.isSome_some, if_true]
  | load tree dv => simp only [stepCfg, specStep, DSet.insertAll, defined_assignAll, loadValues_keys]
  | reset k0 =>
    simp only [stepCfg, specStep, ← C14b.resetStores_isSome]
    cases C14b.resetStores W s k0 with
    | none => rfl
    | some d => simp only [defined_setDefault, DSet.erase, Option.isSome_some, if_true]

theorem specStep_apply (W : World) (s : Schema) (D : DSet) (op : KeyOp) (k : String) :
    specStep W s D op k =
      (match op with | .reset _ => !C14b.writes W s k op && D k | _ => C14b.writes W s k op || D k) := by
  cases op with
  | assign k0 v =>
    simp only [specStep, C14b.writes]
    cases assignAccepts W s k0 v with
    | false => simp
    | true => simp only [if_true, Bool.and_true, DSet.insert, BEq.comm (a := k)]
  | load tree dv => rfl
  | reset k0 =>
    simp only [specStep, C14b.writes]
    cases resetAccepts W s k0 with
    | false => simp
    | true => simp only [if_true, Bool.and_true, DSet.erase, bne, BEq.comm (a := k)]

/-- **One step refines the specification**, key by key: whatever the operation (accepted or rejected assignment, load that
    returns or raises midway, accepted or rejected reset), the user-defined status of `k` afterwards is the specification's. -/
theorem step_refines (W : World) (fuel : Nat) (s : Schema) (cn : Cfg × Nat) (D : DSet) (op : KeyOp) (hop : OpOk s op)
    (k : String) (h : C12.defined cn.1 k = D k) :
    C12.defined (applyOp W (fuel + 1) s cn op).1.1 k = specStep W s D op k := by
  rw [applyOp_state W fuel s cn op hop, defined_stepCfg, specStep_apply, specStep_apply, h]

/-- **Histories, key by key**: a set `D` that gives the status of `k` at the start gives it after every history on declared
    leaf keys, of any length (`step_refines` at every step). -/
theorem run_refines (W : World) (fuel : Nat) (s : Schema) (k : String) :
    ∀ (ops : List KeyOp) (cn : Cfg × Nat) (D : DSet), (∀ op ∈ ops, OpOk s op) → C12.defined cn.1 k = D k →
      C12.defined (runOps W (fuel + 1) s cn ops).1 k = specRun W s D ops k :=
  fun _ _ _ hops h =>
    List.foldl_rel (r := fun (cn : Cfg × Nat) (D : DSet) => C12.defined cn.1 k = D k) h fun op ho cn D h =>
      step_refines W fuel s cn D op (hops op ho) k h

/-- **The user-defined status over whole histories**: for every schema, every start state whose status is given by `D`,
    and every history of assignments (accepted or rejected), loads (returning or raising) and resets on declared leaf keys,
    the status of *every* key afterwards is what the set machine computes. -/
theorem defined_refines (W : World) (fuel : Nat) (s : Schema) (c : Cfg) (n : Nat) (D : DSet) (ops : List KeyOp)
    (hops : ∀ op ∈ ops, OpOk s op) (h : ∀ k, C12.defined c k = D k) :
    ∀ k, C12.defined (runOps W (fuel + 1) s (c, n) ops).1 k = specRun W s D ops k :=
  fun k => run_refines W fuel s k ops (c, n) D hops (h k)

theorem loadAssigned_complete {W : World} {s : Schema} : ∀ {tree : List (Val × Val)},
    loadStops W s tree = false → ∀ ks value fs m, (Val.str ks, value) ∈ tree →
      s.get (String.ofList ks) = some (.leaf fs m) → (envValue W m).isSome = false → String.ofList ks ∈ loadAssigned W s tree := by
  intro tree hs ks value fs m hm hf henv
  induction tree with
  | nil => simp at hm
  | cons e rest ih =>
    obtain ⟨key, v0⟩ := e
    simp only [loadStops] at hs
    simp only [loadAssigned]
    rcases List.mem_cons.1 hm with he | hm'
    · cases he
      have heff := entryEffect_leaf W s ks value hf
      simp only [henv, Bool.false_eq_true, if_false] at heff
      cases hp : toPython W.fe fs value with
      | error e => simp [heff, hp] at hs
      | ok v =>
        simp only [hp] at heff
        cases hv : okB (validate W.fe.toEnv fs v) with
        | false => simp [heff, hv] at hs
        | true => simp [heff, hv]
    · cases he : entryEffect W s key v0 with
      | stop => simp [he] at hs
      | skip => simp only [he] at hs ⊢; exact ih hs hm'
      | assign k0 => simp only [he] at hs ⊢; exact List.mem_cons_of_mem _ (ih hs hm')

theorem load_ok_mem (W : World) (fuel : Nat) (s : Schema) (cn : Cfg × Nat) (tree : List (Val × Val)) (dv : Bool)
    (hop : OpOk s (.load tree dv)) (hok : (applyOp W (fuel + 1) s cn (.load tree dv)).2 = false)
    (ks : List Char) (value : Val) (fs : FieldSpec) (m : LeafMeta) (hm : (Val.str ks, value) ∈ tree)
    (hf : s.get (String.ofList ks) = some (.leaf fs m)) (henv : envValue W m = none) :
    String.ofList ks ∈ loadAssigned W s tree := by
  rw [load_raises_iff W fuel s cn tree dv hop, Bool.or_eq_false_iff] at hok
  exact loadAssigned_complete hok.1 ks value fs m hm hf (by rw [henv]; rfl)

/-- **A load that returns normally** makes every declared leaf key present in the tree user-defined, unless the leaf is
    bound to a set environment variable (such entries are skipped by `load_tree`), and the key then holds a value. -/
theorem load_ok_defines (W : World) (fuel : Nat) (s : Schema) (cn : Cfg × Nat) (tree : List (Val × Val)) (dv : Bool)
    (hop : OpOk s (.load tree dv)) (hok : (applyOp W (fuel + 1) s cn (.load tree dv)).2 = false)
    (ks : List Char) (value : Val) (fs : FieldSpec) (m : LeafMeta) (hm : (Val.str ks, value) ∈ tree)
    (hf : s.get (String.ofList ks) = some (.leaf fs m)) (henv : envValue W m = none) :
    C12.defined (applyOp W (fuel + 1) s cn (.load tree dv)).1.1 (String.ofList ks) = true ∧
    ∃ v, (applyOp W (fuel + 1) s cn (.load tree dv)).1.1.get (String.ofList ks) = some (.val v) := by
  have hl := loadTree_spec W fuel s dv tree cn.1 cn.2 hop
  have hin := load_ok_mem W fuel s cn tree dv hop hok ks value fs m hm hf henv
  simp only [applyOp]
  refine ⟨?_, hl.holds _ hin⟩
  rw [hl.defined]
  simp [List.contains_eq_mem, hin]

/-- **A load, returning or raising, changes neither the status nor the value of a key that is not in the tree.** -/
theorem load_frame (W : World) (fuel : Nat) (s : Schema) (cn : Cfg × Nat) (tree : List (Val × Val)) (dv : Bool)
    (hop : OpOk s (.load tree dv)) (k : String) (hk : ∀ ks value, (Val.str ks, value) ∈ tree → String.ofList ks ≠ k) :
    C12.defined (applyOp W (fuel + 1) s cn (.load tree dv)).1.1 k = C12.defined cn.1 k ∧
    (applyOp W (fuel + 1) s cn (.load tree dv)).1.1.get k = cn.1.get k := by
  have h := loadTree_frame W (fuel + 1) s "" k tree cn.1 dv cn.2 fun hm =>
    let ⟨v, hv⟩ := KeyfileLoad.mem_treeKeys.1 hm
    hk _ v hv String.ofList_toList
  -- `hop` is not needed: the frame holds of any tree
  have _ := hop
  exact ⟨congrArg (!·) h.2, h.1⟩

/-- **A load that raises midway**: the state at the raise is the state after the complete prefix that precedes the first
    failing entry — `loadAssigned` (hence, by `step_refines`, the status of every key) is that of the prefix. -/
theorem load_raise_prefix (W : World) (s : Schema) : ∀ (tree : List (Val × Val)), loadStops W s tree = true →
    ∃ pre key value post, tree = pre ++ (key, value) :: post ∧ loadStops W s pre = false ∧
      entryEffect W s key value = .stop ∧ loadAssigned W s tree = loadAssigned W s pre := by
  intro tree h
  induction tree with
  | nil => simp [loadStops] at h
  | cons e rest ih =>
    obtain ⟨key, value⟩ := e
    simp only [loadStops] at h
    cases he : entryEffect W s key value with
    | stop => exact ⟨[], key, value, rest, rfl, rfl, he, by simp [loadAssigned, he]⟩
    | skip | assign k0 =>
      simp only [he] at h
      obtain ⟨pre, k1, v1, post, ht, hp, hst, ha⟩ := ih h
      exact ⟨(key, value) :: pre, k1, v1, post, by rw [ht]; rfl, by simp [loadStops, he, hp], hst, by simp [loadAssigned, he, ha]⟩

/-- drop every assignment the model rejected (rejection as observed on the state the assignment ran on) -/
def dropRejected (W : World) (fuel : Nat) (s : Schema) : Cfg × Nat → List KeyOp → List KeyOp
  | _, [] => []
  | cn, op :: rest =>
    if op.isAssign && (applyOp W fuel s cn op).2 then dropRejected W fuel s (applyOp W fuel s cn op).1 rest
    else op :: dropRejected W fuel s (applyOp W fuel s cn op).1 rest

/-- does the specification keep the operation (everything but an assignment it rejects)? -/
def specKeeps (W : World) (s : Schema) : KeyOp → Bool
  | .assign k v => assignAccepts W s k v
  | .load _ _ => true
  | .reset _ => true

/-- on declared leaf keys the rejected assignments are those the specification rejects: a property of the operation, not of
    the state it runs on -/
theorem dropRejected_eq_filter (W : World) (fuel : Nat) (s : Schema) :
    ∀ (ops : List KeyOp) (cn : Cfg × Nat), (∀ k v, KeyOp.assign k v ∈ ops → isLeafKey s k = true) →
      dropRejected W (fuel + 1) s cn ops =
        ops.filter (specKeeps W s) := by
  intro ops
  induction ops with
  | nil => exact fun _ _ => rfl
  | cons op rest ih =>
    intro cn hops
    have ih := ih (applyOp W (fuel + 1) s cn op).1 (fun k v hm => hops k v (List.mem_cons_of_mem _ hm))
    simp only [dropRejected, List.filter_cons]
    cases op with
    | load tree dv | reset k => simp [KeyOp.isAssign, specKeeps, ih]
    | assign k v =>
      have hr := assign_raises_iff W fuel s cn k v (hops k v (List.mem_cons_self ..))
      simp only [KeyOp.isAssign, Bool.true_and, hr, ih, specKeeps]
      by_cases ha : assignAccepts W s k v = true <;> simp [ha]

/-- **Rejected assignments are invisible**: dropping every rejected assignment from a history (loads and resets, rejected or
    not, stay) leaves the final configuration *identical* — hence the user-defined status of every key, every value, the
    default marks of nested configurations and the identity counter.  Only the assigned keys need to be declared leaves. -/
theorem rejected_ops_invisible (W : World) (fuel : Nat) (s : Schema) :
    ∀ (ops : List KeyOp) (cn : Cfg × Nat), (∀ k v, KeyOp.assign k v ∈ ops → isLeafKey s k = true) →
      runOps W (fuel + 1) s cn (dropRejected W (fuel + 1) s cn ops) = runOps W (fuel + 1) s cn ops := by
  intro ops cn hops
  rw [dropRejected_eq_filter W fuel s ops cn hops, runOps, runOps, List.foldl_filter]
  -- an assignment the specification rejects stores nothing
  refine List.foldl_rel (r := Eq) rfl fun op hm c _ h => h ▸ ?_
  cases op with
  | load tree dv | reset k => rfl
  | assign k v =>
    cases ha : C14b.assignStores W s k v with
    | some v' => simp only [specKeeps, ← C14b.assignStores_isSome, ha, Option.isSome_some, if_true]
    | none =>
      simp only [specKeeps, ← C14b.assignStores_isSome, ha, Option.isSome_none, Bool.false_eq_true, if_false]
      rw [applyOp_state W fuel s c (.assign k v) (hops k v hm), stepCfg, ha]

/-- `rejected_ops_invisible` read off key by key: dropping the rejected assignments changes neither the status nor the value
    of any key -/
theorem rejected_ops_invisible_keys (W : World) (fuel : Nat) (s : Schema) (ops : List KeyOp) (cn : Cfg × Nat)
    (hops : ∀ k v, KeyOp.assign k v ∈ ops → isLeafKey s k = true) (k : String) :
    C12.defined (runOps W (fuel + 1) s cn (dropRejected W (fuel + 1) s cn ops)).1 k = C12.defined (runOps W (fuel + 1) s cn ops).1 k ∧
    (runOps W (fuel + 1) s cn (dropRejected W (fuel + 1) s cn ops)).1.get k = (runOps W (fuel + 1) s cn ops).1.get k := by
  rw [rejected_ops_invisible W fuel s ops cn hops]
  exact ⟨rfl, rfl⟩

/-- **Reset after anything**: after any history whatever (no hypothesis on it), an accepted reset of a key of the
    configuration makes it not user-defined, leaves the status and the value of every other key alone, and — for a plain
    leaf without environment binding — makes it hold the declared default again. -/
theorem reset_after_anything (W : World) (fuel : Nat) (s : Schema) (cn : Cfg × Nat) (ops : List KeyOp) (k : String) (f : SField)
    (hk : '.' ∉ k.toList) (hf : s.get k = some f) (hstore : C12.stores f = true)
    (hok : (applyOp W (fuel + 1) s (runOps W (fuel + 1) s cn ops) (.reset k)).2 = false) :
    C12.defined (applyOp W (fuel + 1) s (runOps W (fuel + 1) s cn ops) (.reset k)).1.1 k = false ∧
    (∀ k', k' ≠ k →
      C12.defined (applyOp W (fuel + 1) s (runOps W (fuel + 1) s cn ops) (.reset k)).1.1 k' = C12.defined (runOps W (fuel + 1) s cn ops).1 k' ∧
      (applyOp W (fuel + 1) s (runOps W (fuel + 1) s cn ops) (.reset k)).1.1.get k' = (runOps W (fuel + 1) s cn ops).1.get k') ∧
    (∀ fs m, f = .leaf fs m →
      (match fs.kind with | .list _ => False | .dict _ _ => False | .challenge _ => False | _ => True) → m.env = none →
      (applyOp W (fuel + 1) s (runOps W (fuel + 1) s cn ops) (.reset k)).1.1.get k = some (.val m.default.value)) := by
  generalize runOps W (fuel + 1) s cn ops = st at hok ⊢
  have hok' : (resetValue W (fuel + 1) s st.1 k.toList st.2).err = none := by
    simp only [applyOp] at hok
    cases he : (resetValue W (fuel + 1) s st.1 k.toList st.2).err with
    | none => rfl
    | some e => simp [he] at hok
  obtain ⟨c1, n1, hsd, hcfg, hd, hget, hdef⟩ := C12.reset_restores W fuel s st.1 k st.2 f hk hf hstore hok'
  simp only [applyOp, hcfg]
  refine ⟨hd, fun k' hk' => ⟨hdef k' hk', hget k' hk'⟩, ?_⟩
  intro fs m hfe hkind henv
  subst hfe
  exact C12.setDefault_plain_value W "" k fs m st.1 c1 st.2 n1 hkind henv hsd

/-- **Fresh, then any history**: starting from `Config(schema)` nothing declared is user-defined (`build_all_default`), so
    after any history on declared leaf keys the status of every declared storing key is the specification's run from the
    empty set. -/
theorem fresh_then_history (W : World) (fuel : Nat) (s : Schema) (n : Nat) (c0 : Cfg) (n0 : Nat)
    (hb : build W "" false none s n = .ok (c0, n0)) (ops : List KeyOp) (hops : ∀ op ∈ ops, OpOk s op)
    (k : String) (f : SField) (hf : s.get k = some f) (hstore : C12.stores f = true) :
    C12.defined (runOps W (fuel + 1) s (c0, n0) ops).1 k = specRun W s (fun _ => false) ops k :=
  run_refines W fuel s k ops (c0, n0) (fun _ => false) hops
    (build_all_default W "" false none s n c0 n0 hb k f hf hstore).1

/-- **Fresh, then any history, for every key** (declared or not): the status is the specification's run from the complement
    of the storing keys — `is_value_defined` reports a key the configuration never stored as defined. -/
theorem fresh_then_history_all (W : World) (fuel : Nat) (s : Schema) (n : Nat) (c0 : Cfg) (n0 : Nat)
    (hb : build W "" false none s n = .ok (c0, n0)) (ops : List KeyOp) (hops : ∀ op ∈ ops, OpOk s op) (k : String) :
    C12.defined (runOps W (fuel + 1) s (c0, n0) ops).1 k = specRun W s (fun k => !storesKey k s.fields) ops k :=
  run_refines W fuel s k ops (c0, n0) _ hops (build_defined_exact W "" false none s n c0 n0 hb k)

/-! Non-vacuity: a concrete schema and a concrete history.

Two boolean leaves, `a` with the constant default `False`, `b` without default; the history assigns `a` (accepted), assigns a
list to `b` (rejected), loads `{b: true}` and resets `a`.  Everything is evaluated in the model — each step by the equation of
the model for that operation on a leaf key (`applyOp_assign`, `applyOp_reset`, `loadTree_cons_leaf`, `loadTree_nil`; `setValue`
and `loadTree` are defined by well-founded recursion, so evaluation alone does not unfold them; `build` it does) and then `rfl`;
none of the refinement theorems is used — and in the specification (`decide`). -/

namespace Demo

/-- the neutral world (`cexWorld` of Proofs/Inv.lean, despite its name: no environment variable is set) -/
def W : World := cexWorld
def schema : Schema :=
  .mk [("a", .leaf (.mk .bool false none) { default := .const (.bool false) }),
       ("b", .leaf (.mk .bool false none) {})] false []

/-- the hypothesis of `build_all_default_deep` (and of the value clause of `build_all_default`) is satisfiable -/
theorem schema_nodup : schema.keysNodup = true ∧ nodupKeys schema.fields = true := by decide

def history : List KeyOp :=
  [.assign "a" (.bool true), .assign "b" (.list []), .load [(.str ['b'], .bool true)] false, .reset "a"]

/-- the states the history passes through: `c0` fresh, `c1` after steps 1 and 2 (the second assignment is rejected and
    leaves `c1`), `c3` after the load, `c4` after the reset -/
def c0 : Cfg := Cfg.mk 0 [("a", .val (.bool false)), ("b", .val .none)] ["a", "b"] [] none false
def c1 : Cfg := Cfg.mk 0 [("a", .val (.bool true)), ("b", .val .none)] ["b"] [] none false
def c3 : Cfg := Cfg.mk 0 [("a", .val (.bool true)), ("b", .val (.bool true))] [] [] none false
def c4 : Cfg := Cfg.mk 0 [("a", .val (.bool false)), ("b", .val (.bool true))] ["a"] [] none false

theorem get_a : schema.get "a" = some (.leaf (.mk .bool false none) { default := .const (.bool false) }) := by
  simp [schema, Schema.get, Schema.fields, lookupField]
theorem get_b : schema.get "b" = some (.leaf (.mk .bool false none) {}) := by
  simp [schema, Schema.get, Schema.fields, lookupField]

/-- `Config(schema)`: both keys present, `a` at its declared default, both marked not user-defined -/
theorem fresh : build W "" false none schema 0 = .ok (c0, 1) := rfl

/-- accepted assignment: `a` leaves the default marks -/
theorem step1 : applyOp W 1 schema (c0, 1) (.assign "a" (.bool true)) = ((c1, 1), false) := by
  rw [applyOp_assign W 0 schema (c0, 1) "a" (.bool true) get_a]
  rfl
/-- rejected assignment (a list is no boolean): nothing moves, the flag is raised -/
theorem step2 : applyOp W 1 schema (c1, 1) (.assign "b" (.list [])) = ((c1, 1), true) := by
  rw [applyOp_assign W 0 schema (c1, 1) "b" (.list []) get_b]
  rfl
/-- load: `b` is assigned and leaves the default marks -/
theorem step3 : applyOp W 1 schema (c1, 1) (.load [(.str ['b'], .bool true)] false) = ((c3, 1), false) := by
  have hb : schema.get (String.ofList ['b']) = some (.leaf (.mk .bool false none) {}) := get_b
  simp only [applyOp, loadTree_cons_leaf W 0 schema "" c1 ['b'] (.bool true) [] false 1 hb, loadTree_nil]
  rfl
/-- reset: `a` is back at `False` and marked not user-defined; `b` is untouched -/
theorem step4 : applyOp W 1 schema (c3, 1) (.reset "a") = ((c4, 1), false) := by
  rw [applyOp_reset W 0 schema (c3, 1) "a" (by decide) get_a]
  rfl

/-- the model on the whole history -/
theorem run_history : runOps W 1 schema (c0, 1) history = (c4, 1) ∧
    raisedFlags W 1 schema (c0, 1) history = [false, true, false, false] := by
  simp [runOps, raisedFlags, history, step1, step2, step3, step4]

example : C12.defined c4 "a" = false ∧ C12.defined c4 "b" = true ∧
    c4.get "a" = some (.val (.bool false)) ∧ c4.get "b" = some (.val (.bool true)) :=
  ⟨by decide, by decide, by simp [c4, Cfg.get, Cfg.slots, getSlot], by simp [c4, Cfg.get, Cfg.slots, getSlot]⟩

/-- the specification on the whole history, from the empty set -/
example : specRun W schema (fun _ => false) history "a" = false ∧ specRun W schema (fun _ => false) history "b" = true := by decide

/-- the hypotheses of `defined_refines` / `fresh_then_history` hold of the history -/
theorem history_ok : ∀ op ∈ history, OpOk schema op := OpOk.of_check (by decide +kernel)

/-- `fresh_then_history` instantiated: model and specification agree on the demo (both sides are computed above) -/
example : C12.defined (runOps W 1 schema (c0, 1) history).1 "b" = specRun W schema (fun _ => false) history "b" :=
  fresh_then_history W 0 schema 0 c0 1 fresh history history_ok "b" _ get_b rfl

/-- `build_all_default_deep` instantiated -/
example : AllDefault W 3 "" schema c0 := build_all_default_deep W 3 "" false none schema 0 c0 1 schema_nodup.1 fresh

/-- the specification drops exactly the rejected assignment, and the final state is the same without it -/
example : history.filter (specKeeps W schema) = [history[0], history[2], history[3]] := by
  simp only [history, List.filter, specKeeps]
  have h1 : assignAccepts W schema "a" (.bool true) = true := by decide
  have h2 : assignAccepts W schema "b" (.list []) = false := by decide
  simp [h1, h2]

/-- a leaf bound to a set environment variable is skipped by a load -/
def envW : World := { cexWorld with environ := fun n => if n = "B_ENV" then some "1" else none }
def envSchema : Schema := .mk [("b", .leaf (.mk .bool false none) { env := some "B_ENV" })] false []
example : entryEffect envW envSchema (.str ['b']) (.bool false) = .skip ∧
    loadAssigned envW envSchema [(.str ['b'], .bool false)] = [] ∧ loadStops envW envSchema [(.str ['b'], .bool false)] = false := by
  decide

/-- the value clause of `build_all_default` needs distinct keys: with `a` declared twice (`dupSchema` of Proofs/Inv.lean)
    the slot holds the second default, `Schema.get` reads the first declaration -/
theorem dup_value_differs (W : World) :
    ∃ c n', build W "" false none dupSchema 0 = .ok (c, n') ∧
      dupSchema.get "a" = some (.leaf (.mk .bool false none) { default := .const (.bool true) }) ∧
      c.get "a" = some (.val (.int 7)) := by
  refine ⟨_, _, rfl, rfl, ?_⟩
  rw [Cfg.get_setDefault_same]
  rfl

end Demo

/-- **/repo's `reset_value` and `is_value_defined` are what `resetValue` / `isDefined` of Config/Ops.lean follow** (generated reading of
    cincoconfig/support.py, regenerated on every run): walk the dotted path to the owning configuration, find the field, refuse a
    name that is no field with `AttributeError`, and hand the reset to the field's own `__setdefault__` — the one place that knows
    the environment, the declared default, a callable default, a copy of a mutable one and the default-status bookkeeping; the
    status is membership of the owner's default-key set and nothing else -/
theorem reset_code_order :
    Generated.supportShape.lookup "reset_value" =
      some ["path, _, key = key.rpartition('.')", "if[path]", "config = config[path]", "end", "field = config._get_field(key)",
            "if[not field]", "raise:AttributeError", "end", "field.__setdefault__(config)"] ∧
    Generated.supportShape.lookup "is_value_defined" =
      some ["path, _, key = key.rpartition('.')", "if[path]", "config = config[path]", "end",
            "return key not in config._default_value_keys"] := ⟨rfl, rfl⟩

end Cinco.C12b
