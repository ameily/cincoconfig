import Cinco.TreeIO.Effects
import Cinco.Generated.Effects
/-
  C19 — a failed save never damages the file on disk; a successful one writes exactly the serialised bytes.
  The theorems are about the effect sequences *generated from the source* of Config.save / Config.dumps on every run.
-/
namespace Cinco.C19
open Cinco.Effects Cinco.Generated

-- here, so that Lean derives its equations once and not again in every proof that unfolds it
attribute [local simp] exec

theorem step_harmless_dest (c : Bytes) (s : St) (e : Eff) (h : harmless e = true) : (step c s e).dest = s.dest := by
  cases e with
  | call tgt fn =>
    simp only [step]
    split
    · rfl
    · split <;> rfl
  | openR _ | read | close => rfl
  | openW _ | write _ | unknown _ => cases h

theorem exec_harmless_dest (c : Bytes) (fault : Option Nat) (prog : List Eff) (i : Nat) (s : St)
    (h : prog.all harmless = true) : (exec c fault i s prog).dest = s.dest := by
  induction prog generalizing i s with
  | nil => rfl
  | cons e rest ih =>
    have h : harmless e = true ∧ rest.all harmless = true := by simpa using h
    rw [exec]
    split
    · rfl
    · rw [ih (i + 1) _ h.2, step_harmless_dest c s e h.1]

theorem firstUnsafe_cons (e : Eff) (rest : List Eff) :
    firstUnsafe (e :: rest) = if harmless e then firstUnsafe rest + 1 else 0 := by
  cases h : harmless e <;> simp [firstUnsafe, List.takeWhile, h]

/-- **General ordering lemma**: a fault at or before the first effect that can touch the destination leaves it untouched,
    for every program. -/
theorem fault_before_unsafe (c : Bytes) (f : Nat) :
    ∀ (prog : List Eff) (i : Nat) (s : St), i ≤ f → f - i ≤ firstUnsafe prog → (exec c (some f) i s prog).dest = s.dest := by
  intro prog
  induction prog with
  | nil => intro _ _ _ _; rfl
  | cons e rest ih =>
    intro i s hi hf
    rw [exec]
    split
    · rfl
    · next hne =>
      have hlt : i < f := Nat.lt_of_le_of_ne hi fun e => hne (e ▸ rfl)
      rw [firstUnsafe_cons] at hf
      split at hf
      · next hh => rw [ih (i + 1) _ hlt (by omega), step_harmless_dest c s e hh]
      · omega

/-- **Generated obligation**: in the effect sequence generated from `Config.save`, serialisation (`self.dumps`) happens, and happens strictly before
    the first effect that can touch the destination file; nothing in `save` is untranslatable. -/
theorem save_order :
    saveProg.any (isCall "self.dumps") = true ∧
    (List.range saveProg.length).all (fun i => !(saveProg.getD i .read |> isCall "self.dumps") || i < firstUnsafe saveProg) = true ∧
    saveProg.all (fun e => match e with | .unknown _ => false | _ => true) = true := by decide +kernel

/-- **A failed save never touches the destination**: whatever fails at or before the point where `save` opens the file
    (every serialisation failure is such a point, by `save_order`), the destination is byte-for-byte untouched. -/
theorem save_fail_untouched (c : Bytes) (f : Nat) (hf : f ≤ firstUnsafe saveProg) :
    (exec c (some f) 0 {} saveProg).dest = .untouched :=
  fault_before_unsafe c f saveProg 0 {} (Nat.zero_le _) (by omega)

/-- **A successful save writes exactly the bytes serialisation produced** and closes the file. -/
theorem save_ok_bytes (c : Bytes) :
    exec c none 0 {} saveProg = { dest := .written c, opened := false, contentVar := some "content", raised := false } := by
  simp [saveProg, step]

/-- **Generated obligation**: `Config.dumps` (the whole serialisation: format lookup, `to_tree`, the formatter) performs no
    file effect on its own — every failure listed by the property is a fault inside `call self.dumps`. -/
theorem dumps_fault_points : dumpsProg.all harmless = true := by decide

/-- Non-vacuity / discrimination: the reordered program "open, then serialise" is *not* safe — a serialisation fault truncates. -/
example : (exec [1] (some 2) 0 {} [.call "filename" "os.path.expanduser", .openW "filename", .call "content" "self.dumps",
      .write "content", .close]).dest = .truncated := by decide

end Cinco.C19
