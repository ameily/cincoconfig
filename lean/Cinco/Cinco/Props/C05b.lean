import Cinco.Proofs.Sound
import Cinco.Props.C05
/-
  C05 / C01 (continuation) — validation is *sound* with respect to the constraints a field declares.
  `Sat E f v` (Cinco/Proofs/Sound.lean) is written from the declaration, not through the validator's own rule functions:
  type shape, numeric bounds (an int value is compared exactly with a float bound), string length bounds / choices / regex /
  case- and strip-normal form / non-empty when required, network prefix bounds and canonical text, address / host / URL syntax,
  existence mode of file names, item and key / value constraints of typed lists and dicts (with duplicate-free keys).
-/
namespace Cinco.C05b
open Cinco Cinco.Field Cinco.Num

/-- **Whatever a field accepts satisfies what the field declares** — every kind, every option, nested typed lists and dicts. -/
theorem accepted_satisfies_declaration (E : Env) (hE : EnvOk E) (f : FieldSpec) (v0 v : Val)
    (h : validate E f v0 = .ok v) : Sat E f v :=
  validate_sound E hE f v0 v h

/-- the clause for integers against integer bounds, spelled out: `min ≤ i ≤ max` -/
theorem int_bounds_spelled_out (i m : Int) :
    (NotBelow (ofInt i) (some (.int m)) ↔ m ≤ i) ∧ (NotAbove (ofInt i) (some (.int m)) ↔ i ≤ m) :=
  ⟨notBelow_int_int i m, notAbove_int_int i m⟩

/-- an unset value satisfies a field exactly when the field is not required -/
theorem unset_iff_not_required (E : Env) (k : Kind) (r : Bool) : Sat E (.mk k r none) .none ↔ r = false :=
  sat_none_iff E k r

/-- NaN satisfies every pair of float bounds (both comparisons are false in the code as well): the one value the bounds do not constrain -/
theorem nan_escapes_bounds (E : Env) (mn mx : Option Num) (r : Bool) : Sat E (.mk (.float mn mx) r none) (.flt .nan) :=
  sat_float_nan E mn mx r

/-- `float(i)` — what a `FloatField` holds for a whole number — is exact for every whole number of at most 53 bits
    (beyond that the model rounds to 53 bits, ties to even, as CPython does; from 2^1024 − 2^970 on the conversion overflows) -/
theorem float_of_int_exact (i : Int) (h : i.natAbs < 2 ^ 53) : intToFlt i = norm i 0 := by
  by_cases h0 : i.natAbs = 0
  · simp [intToFlt, h0]
  · have hl := (Nat.log2_lt h0).2 h
    have hb : i.natAbs.log2 + 1 ≤ 53 := by omega
    simp [intToFlt, h0, hb]

/-- a whole number given to a `FloatField` is never rejected for overflow below the binary64 range -/
theorem float_field_takes_every_53_bit_int (E : Env) (i : Int) (h : i.natAbs < 2 ^ 53) :
    floatRule E none none (.int i) = .ok (.flt (norm i 0)) := by
  have hov : intOverflows i = false := by
    unfold intOverflows
    simp only [decide_eq_false_iff_not, Nat.not_le]
    calc i.natAbs < 2 ^ 53 := h
      _ ≤ 2 ^ 1024 - 2 ^ 970 := by decide +kernel
  simp [floatRule, hov, checkBounds, float_of_int_exact i h]

-- rounding to 53 bits, ties to even: tests on literals (the general statement is validated by the correspondence stream)
example : intToFlt (2 ^ 53 + 1) = norm (2 ^ 52) 1 := by decide +kernel
example : intToFlt (2 ^ 53 + 3) = norm (2 ^ 52 + 2) 1 := by decide +kernel
example : intToFlt (-(2 ^ 53 + 1)) = norm (-(2 ^ 52)) 1 := by decide +kernel
example : intToFlt (2 ^ 64 - 1) = norm 1 64 := by decide +kernel

end Cinco.C05b

-- closed examples of soundness, in the namespace of `Sat` (the comments in `SatKind`, Proofs/Sound.lean, cite them);
-- they stand in this file because they run in `C05.env0`
namespace Cinco.Field.SoundExamples
open Cinco Cinco.Num Cinco.Str Cinco.Field

theorem envOk_env0 : EnvOk C05.env0 := ⟨fun sd t => by simp [C05.env0], by simp [C05.env0]⟩

/-- `IntField(min=0)`: a bound of 0 is falsy in Python, a truthiness test would ignore it (the mistake of finding F7) -/
def intMin0 : FieldSpec := .mk (.int (some (.int 0)) none) false none
/-- `StringField(transform_strip=True, transform_case='lower', max_len=5, required=True)` -/
def strField : FieldSpec := .mk (.string { strip := .ws, case := some .lower, maxLen := some 5 }) true none
/-- `IPv4NetworkField(max_prefix_len=0)` -/
def netMax0 : FieldSpec := .mk (.ipv4net {} none (some 0)) false none
/-- `ListField(PortField(required=True), required=True)` -/
def ports : FieldSpec := .mk (.list (some (.mk (.int (some (.int 1)) (some (.int 65535))) true none))) true none

/-! `validate_sound` instantiated: the hypothesis is met by concrete inputs that are really normalised -/

example : Sat C05.env0 intMin0 (.int 7) :=
  validate_sound C05.env0 envOk_env0 intMin0 (.str "7".toList) (.int 7) (by decide +kernel)

example : Sat C05.env0 intMin0 (.int 0) :=
  validate_sound C05.env0 envOk_env0 intMin0 (.flt (.dy 1 (-1))) (.int 0) (by decide +kernel)

example : Sat C05.env0 strField (.str "hello".toList) :=
  validate_sound C05.env0 envOk_env0 strField (.str "  HeLLo \n".toList) (.str "hello".toList) (by decide +kernel)

example : Sat C05.env0 netMax0 (.str "0.0.0.0/0".toList) :=
  validate_sound C05.env0 envOk_env0 netMax0 (.str "0.0.0.0/0.0.0.0".toList) (.str "0.0.0.0/0".toList) (by decide +kernel)

example : Sat C05.env0 ports (.list [.int 80, .int 443, .int 8080]) :=
  validate_sound C05.env0 envOk_env0 ports (.tuple [.str " 80".toList, .int 443, .flt (.dy 1010 3)])
    (.list [.int 80, .int 443, .int 8080]) (by decide +kernel)

/-- what `Sat` gives back, in familiar terms: every held port is between 1 and 65535 -/
theorem ports_sat_spec {v : Val} (h : Sat C05.env0 ports v) :
    ∃ xs, v = .list xs ∧ xs ≠ [] ∧ ∀ x ∈ xs, ∃ i : Int, x = .int i ∧ 1 ≤ i ∧ i ≤ 65535 := by
  rcases h with ⟨_, hr⟩ | ⟨_, h⟩
  · cases hr
  · simp only [SatKind, untypedItem, Kind.isAny, Bool.false_eq_true, if_false] at h
    obtain ⟨xs, hv, hne, hall⟩ := h
    refine ⟨xs, hv, hne trivial, ?_⟩
    intro x hx
    have hx' := hall x hx
    rcases hx' with ⟨_, hr⟩ | ⟨_, hk⟩
    · cases hr
    · simp only [SatKind] at hk
      obtain ⟨i, hi, h1, h2⟩ := hk
      exact ⟨i, hi, (notBelow_int_int i 1).1 h1, (notAbove_int_int i 65535).1 h2⟩

/-! `Sat` is not trivially true: out-of-range values do not satisfy it -/

example : ¬ Sat C05.env0 intMin0 (.int (-5)) := by
  simp [Sat, SatKind, intMin0, NotBelow, Num.ext, lt_ofInt_ofInt]

example : ¬ Sat C05.env0 intMin0 (.str "7".toList) := by
  simp [Sat, SatKind, intMin0]

example : ¬ Sat C05.env0 intMin0 (.bool true) := by
  simp [Sat, SatKind, intMin0]

example : ¬ Sat C05.env0 strField (.str "toolong".toList) :=
  fun h => absurd ((sat_str_iff.1 h).maxLen 5 rfl) (by decide +kernel)

example : ¬ Sat C05.env0 strField (.str "Hello".toList) :=
  fun h => absurd (show lower "Hello".toList = "Hello".toList from (sat_str_iff.1 h).caseNormal) (by decide +kernel)

example : ¬ Sat C05.env0 strField (.str " hi".toList) :=
  fun h => absurd (show strip " hi".toList = " hi".toList from (sat_str_iff.1 h).stripNormal) (by decide +kernel)

example : ¬ Sat C05.env0 strField (.str []) :=
  fun h => (sat_str_iff.1 h).nonempty rfl rfl

example : ¬ Sat C05.env0 strField .none := by simp [Sat, strField]

/-- prefix length 8 with `max_prefix_len = 0` (finding F7: the unrepaired code ignored a bound of 0) -/
example : ¬ Sat C05.env0 netMax0 (.str "10.0.0.0/8".toList) := by
  intro h
  obtain ⟨s, n, p, hs, _, hp, hps, _⟩ := (sat_iff_of_ne_none (by simp)).1 h
  obtain rfl := Val.str.inj hs
  have e : Net.parseNet "10.0.0.0/8".toList = some (167772160, 8) := by decide +kernel
  rw [e] at hp
  cases hp
  exact absurd (hps.2 0 rfl) (by decide +kernel)

/-- a text that is not the canonical text of a network is not held -/
example : ¬ Sat C05.env0 netMax0 (.str "0.0.0.0/0.0.0.0".toList) := by
  intro h
  obtain ⟨s, n, p, hs, he, hp, _, _⟩ := (sat_iff_of_ne_none (by simp)).1 h
  obtain rfl := Val.str.inj hs
  have e : Net.parseNet "0.0.0.0/0.0.0.0".toList = some (0, 0) := by decide +kernel
  rw [e] at hp
  cases hp
  revert he
  decide +kernel

example : ¬ Sat C05.env0 ports (.list [.int 80, .int 0]) := by
  intro h
  obtain ⟨xs, hv, _, hall⟩ := ports_sat_spec h
  cases hv
  obtain ⟨i, hi, h1, _⟩ := hall (.int 0) (by simp)
  cases hi
  exact absurd h1 (by decide +kernel)

example : ¬ Sat C05.env0 ports (.list []) := by
  intro h
  obtain ⟨xs, hv, hne, _⟩ := ports_sat_spec h
  cases hv
  exact hne rfl

example : ¬ Sat C05.env0 ports (.tuple [.int 80]) := by
  intro h
  obtain ⟨xs, hv, _, _⟩ := ports_sat_spec h
  cases hv

/-! The clauses that are deliberately absent -/

/-- **Finding F22**: the string options of an `IPv4NetworkField` are applied to the input, not to the canonical text that
    is held — the held text of an accepted value can violate them (here `max_len = 8`). -/
theorem ipv4net_options_not_of_result :
    ∃ (o : StrOpts) (v0 : Val) (s : Str), validate C05.env0 (.mk (.ipv4net o none none) false none) v0 = .ok (.str s) ∧
      ¬ StrSat o false s :=
  ⟨{ maxLen := some 8 }, .str "10.0.0.1".toList, "10.0.0.1/32".toList, by decide +kernel,
    fun h => absurd (h.maxLen 8 rfl) (by decide +kernel)⟩

/-- **Finding F25**: the string options of a `FilenameField` with a start directory are applied to the text as given,
    not to the resolved path that is held (here `max_len = 1`, `a` resolved to `/a`). -/
theorem filename_options_not_of_result :
    ∃ (o : StrOpts) (v0 : Val) (s : Str),
      validate C05.env0 (.mk (.filename o .any (some "d".toList)) false none) v0 = .ok (.str s) ∧ ¬ StrSat o false s :=
  ⟨{ maxLen := some 1 }, .str "a".toList, "/a".toList, by decide +kernel,
    fun h => absurd (h.maxLen 1 rfl) (by decide +kernel)⟩

/-- NaN is accepted by a `FloatField` whatever its bounds (and `Sat` says so): `nan < min` and `nan > max` are false. -/
example : validate C05.env0 (.mk (.float (some (.int 0)) (some (.int 1))) true none) (.flt .nan) = .ok (.flt .nan) := by
  decide +kernel

/-- the algorithm of a held digest need not be the field's: a digest value is accepted as it is (finding F23) -/
example : validate C05.env0 (.mk (.challenge "sha256") true none) (.digest [1] [2] "md5") = .ok (.digest [1] [2] "md5") := by
  decide +kernel

/-- the items of a list of `AnyField` are not looked at — not even for `required` — so nothing is claimed of them -/
example : validate C05.env0 (.mk (.list (some (.mk .any true none))) true none) (.tuple [.none]) = .ok (.tuple [.none]) := by
  decide +kernel

end Cinco.Field.SoundExamples
